/-
C02 — optimize() never trades a satisfied constraint for objective score.
For pure total specifications, any lawful score order, every tape and setting: the two local optimisers keep the local
problem feasible and never lower its total; `optimize_preserves_feasible` lifts this to the whole problem, given the
localization soundness of each evaluated constraint (`LocalSound`, the first clause of C08, proved per class in Props/C08).
-/
import DnaModel.Props.C06
import DnaModel.Props.C12
set_option linter.unusedSectionVars false
namespace Dna.C02
open Dna Solver Dna.Pure
variable {σ K : Type} [BEq σ] [Score K]

theorem mutate_tape (sett : Settings) (F : Frame σ) (s s' : Seq) (st st' : St σ K)
    (h : mutate sett F s st = (.ok s', st')) : st'.trace = st.trace ∧ st'.shared = st.shared := by
  revert h
  fun_cases mutate sett F s st with
  | case1 => nofun
  | case2 =>
    rintro ⟨⟩
    exact ⟨rfl, rfl⟩

/-- the random loop keeps only feasible candidates with a strictly higher total, whatever the tape -/
theorem optRandomLoop_spec [LawfulScore K] (ops : SpecOps σ K) (ev) (hp : PureEval ops ev) (sett : Settings) (F : Frame σ)
    (bp : Option K) (fuel : Nat) (score : K) (stag : Nat) (s : Seq) (st : St σ K)
    (hs : feasible ops ev F s = true) (hsc : score = total ops ev F s) :
    ∃ r t st', optRandomLoop ops sett F bp fuel score stag s st = (r, t, st') ∧
      (∀ u, r = .ok u → feasible ops ev F t = true ∧ Score.lt (total ops ev F t) (total ops ev F s) = false) := by
  fun_induction optRandomLoop ops sett F bp fuel score stag s st with
  | case1 | case2 | case3 => exact ⟨_, _, _, rfl, fun _ _ => ⟨hs, LawfulScore.lt_irrefl _⟩⟩
  | case4 | case5 | case6 => exact ⟨_, _, _, rfl, nofun⟩
  | case8 | case9 =>
    rename_i ih
    exact ih hs hsc
  | case7 =>
    -- the candidate is taken: the two calls returned `feasible … s' = true` and the total of `s'`, the new score
    rename_i hacp _ _ hobj hlt ih
    obtain ⟨_, h2, _⟩ := allConstraintsPass_pure hp F _ _
    obtain ⟨_, h3, _⟩ := objectiveScoresSum_pure hp F _ _
    cases hobj.symm.trans h3
    obtain ⟨r, t, st', h, hres⟩ := ih (Except.ok.inj (Prod.mk.inj (hacp.symm.trans h2)).1).symm rfl
    exact ⟨r, t, st', h, fun u hu => ⟨(hres u hu).1, notLower_trans (notLower_of_lt (hsc ▸ hlt)) (hres u hu).2⟩⟩

/-- `optimize_by_random_mutations()` from a feasible start ends on a feasible sequence whose total is not lower — for
    every tape -/
theorem optimizeRandom_spec [LawfulScore K] (ops : SpecOps σ K) (ev) (hp : PureEval ops ev) (sett : Settings) (F : Frame σ)
    (s : Seq) (st : St σ K) (hs : feasible ops ev F s = true) :
    ∃ r t st', optimizeRandom ops sett F s st = (r, t, st') ∧
      (∀ u, r = .ok u → feasible ops ev F t = true ∧ Score.lt (total ops ev F t) (total ops ev F s) = false) := by
  obtain ⟨st1, h1, _⟩ := allConstraintsPass_pure hp F s st
  obtain ⟨st2, h2, _⟩ := objectiveScoresSum_pure hp F s st1
  simp only [optimizeRandom, h1, hs, h2]
  exact optRandomLoop_spec ops ev hp sett F _ _ _ 0 s st2 hs rfl

theorem optimizeRandom_infeasible (ops : SpecOps σ K) (ev) (hp : PureEval ops ev) (sett : Settings) (F : Frame σ)
    (s : Seq) (st : St σ K) (hs : feasible ops ev F s = false) :
    ∃ st', optimizeRandom ops sett F s st = (.error .valueError, s, st') := by
  obtain ⟨st1, h1, _⟩ := allConstraintsPass_pure hp F s st
  obtain ⟨r, st2, h2, _⟩ := constraintsEvaluations_pure hp s F.constraints st1
  exact ⟨st2, by simp only [optimizeRandom, h1, hs, h2]⟩

/-- `optimize_by_exhaustive_search()`: the counterpart (it always returns; its enumeration always exists,
    `C15.allVariants_eq`) -/
theorem optimizeExhaustive_spec [LawfulScore K] (ops : SpecOps σ K) (ev) (hp : PureEval ops ev) (F : Frame σ)
    (s : Seq) (st : St σ K) (hs : feasible ops ev F s = true) :
    ∃ t st', optimizeExhaustive ops F s st = (.ok (), t, st') ∧ feasible ops ev F t = true ∧
      Score.lt (total ops ev F t) (total ops ev F s) = false := by
  obtain ⟨t, st', h, _, hb⟩ := C06.optimizeExhaustive_pure hp F s st _ (C15.allVariants_eq F.space s) hs
  exact ⟨t, st', h, hb.feasible_best hs, hb.notLower⟩

-- `hvs`, `hbp`: the statement carries them, the proof does not need them
set_option linter.unusedVariables false in
/-- both local optimisers: feasible in, feasible out, total not lower (the two `_spec` theorems side by side) -/
theorem local_optimizers_preserve [LawfulScore K] (ops : SpecOps σ K) (ev) (hp : PureEval ops ev) (sett : Settings)
    (F : Frame σ) (s : Seq) (st : St σ K) (vs : List Seq) (hvs : F.space.allVariants s = .ok vs)
    (hs : feasible ops ev F s = true)
    (hbp : ∀ b, bestSum ops F.objectives = some b → ∀ v ∈ vs, feasible ops ev F v = true →
      Score.le (total ops ev F v) b = true) :
    (∃ t st', optimizeExhaustive ops F s st = (.ok (), t, st') ∧ feasible ops ev F t = true ∧
        Score.lt (total ops ev F t) (total ops ev F s) = false) ∧
    (∃ r t st', optimizeRandom ops sett F s st = (r, t, st') ∧
        (∀ u, r = .ok u → feasible ops ev F t = true ∧ Score.lt (total ops ev F t) (total ops ev F s) = false)) :=
  ⟨optimizeExhaustive_spec ops ev hp F s st hs, optimizeRandom_spec ops ev hp sett F s st hs⟩

/-! ### the lift from the local problems to the whole problem

For every location flagged by an objective, `optimize()` localizes the mutation space, localizes **every** constraint to
the span of the multi-variant choices, re-initialises them on the local problem and runs one of the two local
optimisers.  `optimize_preserves_feasible` composes the local guarantee (`localOptimize_ok`) with: every candidate
differs from the current sequence only inside that span (C15, through the closedness invariant of C12), and
`LocalSound` — the first clause of C08 — for every constraint the solver evaluates. -/

/-- `localized` (without `with_righthand`) and `initialized_on_problem` are pure total functions
    `lz` / `ini` of their arguments -/
structure PureObj (ops : SpecOps σ K) (lz : σ → Loc → Seq → Option σ) (ini : σ → Seq → Role → σ) : Prop where
  loc : ∀ c l s k, ∃ r, ops.localize c l none s k = .ok r ∧ r.map Prod.fst = lz c l s
  init : ∀ c s r k, ∃ d, ops.initOn c s r k = .ok (ini c s r, d)

def AgreeOut (a b : Nat) (s t : Seq) : Prop :=
  t.length = s.length ∧ ∀ i : Nat, (i < a ∨ b ≤ i) → t[i]? = s[i]?

/-- **first clause of C08** for one constraint `c`, as the solver uses it: `c` passes on `s`; `t` differs from `s`
    only inside the window `[a, b)`; the constraint localized to the window (on `s`) and re-initialised on the local
    problem (whose sequence is `s`) passes on `t`, or there is no localized constraint.  Then `c` passes on `t`.
    (`n`: the length of the problem's sequence.) -/
def LocalSound (n : Nat) (ev : σ → Seq → Eval K) (lz : σ → Loc → Seq → Option σ) (ini : σ → Seq → Role → σ) (c : σ) : Prop :=
  ∀ (a b : Nat) (s t : Seq), s.length = n → (ev c s).passes = true → AgreeOut a b s t →
    (∀ c1, lz c ⟨a, b, 0⟩ s = some c1 → (ev (ini c1 s .constraint) t).passes = true) →
    (ev c t).passes = true

theorem localizeAt_pure (ops : SpecOps σ K) (lz) (ini) (hq : PureObj ops lz ini) (c : σ) (l : Loc) (s : Seq) (st : St σ K) :
    ∃ st', localizeAt ops c l none s st = (.ok (lz c l s), st') := by
  obtain ⟨r, h1, h2⟩ := hq.loc c l s st.nAlloc
  simp only [localizeAt, h1, ← h2]
  cases r with
  | none => exact ⟨_, rfl⟩
  | some p => exact ⟨_, rfl⟩

theorem localizeAll_pure (ops : SpecOps σ K) (lz) (ini) (hq : PureObj ops lz ini) (l : Loc) (s : Seq) (cs : List σ) (st : St σ K) :
    ∃ st', localizeAll ops s l cs st = (.ok (cs.filterMap (fun c => lz c l s)), st') := by
  induction cs generalizing st with
  | nil => exact ⟨st, rfl⟩
  | cons c cs ih =>
    obtain ⟨st1, h1⟩ := localizeAt_pure ops lz ini hq c l s st
    obtain ⟨st2, h2⟩ := ih st1
    simp only [localizeAll, h1, h2, List.filterMap_cons]
    cases lz c l s with
    | none => exact ⟨st2, rfl⟩
    | some x => exact ⟨st2, rfl⟩

theorem initAll_pure (ops : SpecOps σ K) (lz) (ini) (hq : PureObj ops lz ini) (s : Seq) (role : Role) (cs : List σ) (st : St σ K) :
    ∃ st', initAll ops s role cs st = (.ok (cs.map (fun c => ini c s role)), st') := by
  induction cs generalizing st with
  | nil => exact ⟨st, rfl⟩
  | cons c cs ih =>
    obtain ⟨d, hd⟩ := hq.init c s role st.nAlloc
    obtain ⟨st2, h2⟩ := ih (inherit { st with nAlloc := st.nAlloc + 1 } c (ini c s role) d)
    exact ⟨st2, by simp only [initAll, initAt, hd, h2, List.map_cons]⟩

theorem newLocal_pure (ops : SpecOps σ K) (lz) (ini) (hq : PureObj ops lz ini) (s : Seq) (cs os : List σ) (sp : Space) (st : St σ K) :
    ∃ LF st', newLocal ops s cs os sp st = (.ok LF, st') ∧
      LF.constraints = cs.map (fun c => ini c s .constraint) ∧
      LF.objectives = os.map (fun c => ini c s .objective) := by
  obtain ⟨st1, h1⟩ := initAll_pure ops lz ini hq s .constraint cs (logSeq s st)
  obtain ⟨st2, h2⟩ := initAll_pure ops lz ini hq s .objective os st1
  exact ⟨{ constraints := cs.map (fun c => ini c s .constraint), objectives := os.map (fun c => ini c s .objective),
            space := sp, seqBefore := s }, st2, by simp only [newLocal, h1, h2], rfl, rfl⟩

/-- These three are stated from the equation `h`, the form to use downstream (the `_spec` theorems bind the result
    under an existential); no feasibility hypothesis, since both optimisers refuse an infeasible start -/
theorem optimizeExhaustive_ok [LawfulScore K] {ops : SpecOps σ K} {ev} (hp : PureEval ops ev) {F : Frame σ}
    {s t : Seq} {st st' : St σ K} {u : Unit} (h : optimizeExhaustive ops F s st = (.ok u, t, st')) :
    feasible ops ev F t = true ∧ Score.lt (total ops ev F t) (total ops ev F s) = false := by
  cases hf : feasible ops ev F s with
  | false =>
    obtain ⟨w, st2, h2, _⟩ := C06.optimizeExhaustive_infeasible ops ev hp F s st hf
    rw [h2] at h; cases h
  | true =>
    obtain ⟨t2, st2, h2, hres⟩ := optimizeExhaustive_spec ops ev hp F s st hf
    rw [h2] at h; cases h
    exact hres

theorem optimizeRandom_ok [LawfulScore K] {ops : SpecOps σ K} {ev} (hp : PureEval ops ev) {sett : Settings} {F : Frame σ}
    {s t : Seq} {st st' : St σ K} {u : Unit} (h : optimizeRandom ops sett F s st = (.ok u, t, st')) :
    feasible ops ev F t = true ∧ Score.lt (total ops ev F t) (total ops ev F s) = false := by
  cases hf : feasible ops ev F s with
  | false =>
    obtain ⟨st2, h2⟩ := optimizeRandom_infeasible ops ev hp sett F s st hf
    rw [h2] at h; cases h
  | true =>
    obtain ⟨r, t2, st2, h2, hres⟩ := optimizeRandom_spec ops ev hp sett F s st hf
    rw [h2] at h; cases h
    exact hres u rfl

theorem localOptimize_ok [LawfulScore K] {ops : SpecOps σ K} {ev} (hp : PureEval ops ev) {sett : Settings} {F : Frame σ}
    {s t : Seq} {st st' : St σ K} {u : Unit} (h : localOptimize ops sett F s st = (.ok u, t, st')) :
    feasible ops ev F t = true ∧ Score.lt (total ops ev F t) (total ops ev F s) = false := by
  simp only [localOptimize] at h
  split at h
  · exact optimizeExhaustive_ok hp h
  · exact optimizeRandom_ok hp h

/-- every multi-variant choice of a well-formed space lies inside its `choices_span` -/
theorem span_bounds (n : Nat) (mc : List Choice) (h : C15.ChoicesFit n mc) (x y : Choice)
    (hx : mc.head? = some x) (hy : mc.getLast? = some y) : ∀ c ∈ mc, x.start ≤ c.start ∧ c.stop ≤ y.stop := by
  obtain ⟨hall, hp⟩ := C15.choicesFit_iff.1 h
  have hxs := (hall x (List.mem_of_head? hx)).2.1
  have hys := (hall y (List.mem_of_getLast? hy)).2.1
  intro c hc
  constructor
  · rcases pairwise_head? hp hx c hc with rfl | h1
    exacts [Nat.le_refl _, Nat.le_trans (Nat.le_of_lt hxs) h1]
  · rcases pairwise_getLast? hp hy c hc with rfl | h1
    exacts [Nat.le_refl _, Nat.le_trans h1 (Nat.le_of_lt hys)]

/-- candidates of a space differ from the current sequence only inside its `choices_span` -/
theorem closed_agreeOut (n : Nat) (sp : Space) (a b : Nat) (s0 : Seq) (hn : s0.length = n)
    (hmc : C15.ChoicesFit n sp.multichoices) (hspan : sp.choicesSpan = some (a, b)) :
    C12.Closed (AgreeOut a b s0) sp := by
  have hb : ∀ c ∈ sp.multichoices, a ≤ c.start ∧ c.stop ≤ b := by
    simp only [Space.choicesSpan] at hspan
    split at hspan
    · rename_i x y hx hy
      cases hspan
      exact span_bounds n _ hmc x y hx hy
    · cases hspan
  refine C12.closed_of_edit _ n sp hmc (fun _ hs => hs.1.trans hn) ?_
  rintro s r hs ⟨hl, chosen, hch, hout⟩
  refine ⟨hl.trans hs.1, fun i hi => ?_⟩
  rw [← hs.2 i hi]
  exact hout i (fun c hc => by have := hb c (hch c hc).1; omega)

structure LiftHyp (ops : SpecOps σ K) (ev : σ → Seq → Eval K) (lz : σ → Loc → Seq → Option σ)
    (ini : σ → Seq → Role → σ) (F : Frame σ) (n : Nat) : Prop where
  pureEval : PureEval ops ev
  pureObj : PureObj ops lz ini
  /-- a hypothesis: C04 proves `ChoicesFit` for the choices of a constructed space (`from_optimization_problem_fits`),
      not for its localizations -/
  localFit : ∀ a b : Int, C15.ChoicesFit n (F.space.localized a b).multichoices
  /-- first clause of C08 for every constraint the solver evaluates -/
  sound : ∀ c ∈ F.constraints, ops.enforced c = false → LocalSound n ev lz ini c
  enforcedKept : ∀ c ∈ F.constraints, ops.enforced c = false → ∀ l s c1, lz c l s = some c1 →
    ops.enforced (ini c1 s .constraint) = false

/-- the objectives a local problem of `optimize_objective` is given -/
def localObjectives (ops : SpecOps σ K) (lz : σ → Loc → Seq → Option σ) (ini : σ → Seq → Role → σ) (F : Frame σ)
    (a b : Nat) (s : Seq) : List σ :=
  ((F.objectives.filter (fun o => !Score.eq (ops.boost o) (Score.zero : K))).filterMap (fun o => lz o ⟨a, b, 0⟩ s)).map
    (fun o => ini o s .objective)

/-- the constraints a local problem of `optimize_objective` is given: every constraint, localized -/
def localConstraints (lz : σ → Loc → Seq → Option σ) (ini : σ → Seq → Role → σ) (F : Frame σ)
    (a b : Nat) (s : Seq) : List σ :=
  (F.constraints.filterMap (fun c => lz c ⟨a, b, 0⟩ s)).map (fun c => ini c s .constraint)

/-- **one location of `optimize_objective`**: either the sequence is left alone, or it results from a successful
    optimisation of the local problem for the span `[a, b)` of the multi-variant choices under the location: it
    differs from `s` only inside the span, the local constraints pass on it, the local total is not lower -/
theorem optimizeLocation_cases [LawfulScore K] (ops : SpecOps σ K) (ev lz ini) (hp : PureEval ops ev)
    (hq : PureObj ops lz ini) (sett : Settings) (F : Frame σ) (n : Nat)
    (hfit : ∀ a b : Int, C15.ChoicesFit n (F.space.localized a b).multichoices)
    (location : Loc) (s : Seq) (st : St σ K) (hn : s.length = n) :
    (optimizeLocation ops sett F location s st).2.1 = s ∨
    ∃ (a b : Nat) (LF : Frame σ),
      LF.constraints = localConstraints lz ini F a b s ∧ LF.objectives = localObjectives ops lz ini F a b s ∧
      AgreeOut a b s (optimizeLocation ops sett F location s st).2.1 ∧
      feasible ops ev LF (optimizeLocation ops sett F location s st).2.1 = true ∧
      Score.lt (total ops ev LF (optimizeLocation ops sett F location s st).2.1) (total ops ev LF s) = false := by
  rcases C12.optimizeLocation_seq ops sett F location s st with
    h | ⟨a, b, lcs, los, LF, st1, st2, st3, ls, st4, hspan, h1, h2, hnl, hopt, h⟩
  · exact Or.inl h
  · -- for pure specifications `newLocal` maps `ini` over the lists it is given, and these are `filterMap lz …`
    have hLFs := newLocal_space hnl
    obtain ⟨_, _, e3, hLFc, hLFo⟩ := newLocal_pure ops lz ini hq s lcs los
      (F.space.localized location.start location.stop) st2
    rw [e3] at hnl; cases hnl
    obtain ⟨_, e1⟩ := localizeAll_pure ops lz ini hq ⟨a, b, 0⟩ s F.constraints st
    rw [e1] at h1; cases h1
    obtain ⟨_, e2⟩ := localizeAll_pure ops lz ini hq ⟨a, b, 0⟩ s
      (F.objectives.filter (fun o => !Score.eq (ops.boost o) (Score.zero : K))) st1
    rw [e2] at h2; cases h2
    -- candidates of the local space differ from `s` only inside its span
    have hag := C12.localOptimize_inv (AgreeOut a b s) ops sett LF s st3
      (closed_agreeOut n _ a b s hn (hLFs ▸ hfit _ _) (hLFs ▸ hspan)) ⟨rfl, fun _ _ => rfl⟩
    rw [hopt] at hag
    rw [h]
    exact Or.inr ⟨a, b, LF, hLFc, hLFo, hag, localOptimize_ok hp hopt⟩

/-- **C02 for the whole problem.**  For pure total specifications whose constraints have a sound localization (first
    clause of C08), on a well-formed mutation space: if every constraint that the problem evaluates passes before
    `optimize()`, every one of them passes on `problem.sequence` after it — whether it returns or raises, for every
    objective mix, setting and random tape. -/
theorem optimize_preserves_feasible [LawfulScore K] (ops : SpecOps σ K) (ev lz ini) (sett : Settings) (F : Frame σ) (n : Nat)
    (H : LiftHyp ops ev lz ini F n) (s : Seq) (st : St σ K) (hn : s.length = n)
    (hs : feasible ops ev F s = true) :
    feasible ops ev F (optimize ops sett F s st).2.1 = true := by
  refine (C12.optimize_inv (fun s => feasible ops ev F s = true ∧ s.length = n) ops sett F ?_ s st ⟨hs, hn⟩).1
  -- one location: what passed before passes after, by `LocalSound` from the local problem's verdict
  rintro location s st ⟨hs, hn⟩
  rcases optimizeLocation_cases ops ev lz ini H.pureEval H.pureObj sett F n H.localFit location s st hn with
    h | ⟨a, b, LF, hLFc, _, hag, hlf, _⟩
  · rw [h]; exact ⟨hs, hn⟩
  · refine ⟨?_, hag.1.trans hn⟩
    simp only [feasible, List.all_eq_true, List.mem_filter, Bool.not_eq_true', and_imp] at hs hlf ⊢
    intro c hc henf
    apply H.sound c hc henf a b s _ hn (hs c hc henf) hag
    intro c1 hc1
    apply hlf
    · rw [hLFc, localConstraints, List.mem_map]
      exact ⟨c1, List.mem_filterMap.2 ⟨c, hc, hc1⟩, rfl⟩
    · exact H.enforcedKept c hc henf _ _ _ hc1

/-! ### non-vacuity: the hypotheses are satisfiable -/
/-- a specification whose `localized` returns itself (EnforceChoice, non-windowed GC, budgets …) is trivially sound -/
example (n : Nat) (ev : σ → Seq → Eval K) (c : σ) : LocalSound n ev (fun c _ _ => some c) (fun c _ _ => c) c :=
  fun _ _ _ _ _ _ _ h => h c rfl

example : AgreeOut 1 3 "ATGCA".toList "ACCCA".toList := by
  -- literals first: the kernel is very slow at unfolding `String.toList` on a literal
  simp only [String.reduceToList]
  refine ⟨rfl, ?_⟩
  intro i hi
  match i, hi with
  | 0, _ => rfl
  | 1, h => exact absurd h (by decide)
  | 2, h => exact absurd h (by decide)
  | 3, _ => rfl
  | 4, _ => rfl
  | n + 5, _ => rfl

end Dna.C02
