/-
C03 — optimize() never lowers the weighted objective total.
Both local optimisers accept strict improvements only (`C02.optRandomLoop_spec`, `C06.optExhaustiveLoop_pure`), and "not
lower" composes.  The lift from local totals to the global total (`optimize_never_lowers`) takes the score faithfulness
of localized objectives as the hypothesis `TotalFaithful`; Props/C09 derives it in exact arithmetic.
-/
import DnaModel.Props.C02
set_option linter.unusedSectionVars false
namespace Dna.C03
open Dna Solver Dna.Pure
variable {σ K : Type} [BEq σ] [Score K] [LawfulScore K]

-- `hbp`: the statement carries it, the proof does not need it
set_option linter.unusedVariables false in
/-- exhaustive local optimisation: total not lower, for every start (an infeasible one is refused and left unchanged) -/
theorem optimizeExhaustive_mono (ops : SpecOps σ K) (ev) (hp : PureEval ops ev) (F : Frame σ) (s : Seq)
    (st : St σ K) (vs : List Seq) (hvs : F.space.allVariants s = .ok vs)
    (hbp : ∀ b, bestSum ops F.objectives = some b → ∀ v ∈ vs, feasible ops ev F v = true →
      Score.le (total ops ev F v) b = true) :
    ∃ r t st', optimizeExhaustive ops F s st = (r, t, st') ∧
      Score.lt (total ops ev F t) (total ops ev F s) = false := by
  cases hf : feasible ops ev F s with
  | true =>
    obtain ⟨t, st', h, _, hb⟩ := C06.optimizeExhaustive_pure hp F s st vs hvs hf
    exact ⟨_, t, st', h, hb.notLower⟩
  | false =>
    obtain ⟨w, st', h, _⟩ := C06.optimizeExhaustive_infeasible ops ev hp F s st hf
    exact ⟨_, s, st', h, LawfulScore.lt_irrefl _⟩

theorem optimizeRandom_mono (ops : SpecOps σ K) (ev) (hp : PureEval ops ev) (sett : Settings) (F : Frame σ)
    (s : Seq) (st : St σ K) (hs : feasible ops ev F s = true) :
    ∃ r t st', optimizeRandom ops sett F s st = (r, t, st') ∧
      (∀ u, r = .ok u → Score.lt (total ops ev F t) (total ops ev F s) = false) := by
  obtain ⟨r, t, st', h, hres⟩ := C02.optimizeRandom_spec ops ev hp sett F s st hs
  exact ⟨r, t, st', h, fun u hu => (hres u hu).2⟩

theorem two_steps_mono (ops : SpecOps σ K) (ev : σ → Seq → Eval K) (F : Frame σ) (s t u : Seq)
    (h1 : Score.lt (total ops ev F t) (total ops ev F s) = false)
    (h2 : Score.lt (total ops ev F u) (total ops ev F t) = false) :
    Score.lt (total ops ev F u) (total ops ev F s) = false :=
  notLower_trans h1 h2

/-- no hypothesis on declared best scores: those only matter for optimality (C06) -/
theorem optExhaustiveLoop_mono (ops : SpecOps σ K) (ev) (hp : PureEval ops ev) (F : Frame σ) (bp : Option K)
    (s0 : Seq) (vs : List Seq) (bestScore : K) (bestSeq cur : Seq) (st : St σ K)
    (hsc : bestScore = total ops ev F bestSeq)
    (hb : Score.lt (total ops ev F bestSeq) (total ops ev F s0) = false)
    (b cur' : Seq) (st' : St σ K) (h : optExhaustiveLoop ops F bp vs bestScore bestSeq cur st = (.ok b, cur', st')) :
    Score.lt (total ops ev F b) (total ops ev F s0) = false := by
  subst hsc
  obtain ⟨b', _, _, h', _, hb'⟩ := C06.optExhaustiveLoop_pure hp F bp vs bestSeq cur st
  rw [h] at h'
  cases h'
  exact notLower_trans hb hb'.notLower

/-! ### the lift from the local problems to the whole problem -/

/-- **what C09 gives the solver**: on the local problem built for the window `[a, b)` around `s` (objectives with a
    non-zero boost, localized and re-initialised; `n`: the problem's length), a candidate `t` that differs from `s` only
    inside the window and whose *local* total is not lower has a *global* total that is not lower.  Proved from the
    per-objective score identity over ℚ in Props/C09 (`totalFaithful_of_scoreFaithful`). -/
def TotalFaithful (n : Nat) (ops : SpecOps σ K) (ev : σ → Seq → Eval K) (lz : σ → Loc → Seq → Option σ)
    (ini : σ → Seq → Role → σ) (F : Frame σ) : Prop :=
  ∀ (a b : Nat) (s t : Seq) (LF : Frame σ), s.length = n → C02.AgreeOut a b s t →
    LF.objectives = C02.localObjectives ops lz ini F a b s →
    Score.lt (total ops ev LF t) (total ops ev LF s) = false →
    Score.lt (total ops ev F t) (total ops ev F s) = false

/-- **C03 for the whole problem.**  For pure total specifications whose localized objectives are faithful (C09) on a
    well-formed mutation space: `optimize()` never ends on a sequence whose boost-weighted total is lower than the one
    it started from — whether it returns or raises, for every objective mix, setting and tape. -/
theorem optimize_never_lowers (ops : SpecOps σ K) (ev lz ini) (sett : Settings) (F : Frame σ) (n : Nat)
    (hp : PureEval ops ev) (hq : C02.PureObj ops lz ini)
    (hfit : ∀ a b : Int, C15.ChoicesFit n (F.space.localized a b).multichoices)
    (hT : TotalFaithful n ops ev lz ini F) (s : Seq) (st : St σ K) (hn : s.length = n) :
    Score.lt (total ops ev F (optimize ops sett F s st).2.1) (total ops ev F s) = false := by
  refine (C12.optimize_inv (fun s1 => Score.lt (total ops ev F s1) (total ops ev F s) = false ∧ s1.length = n)
    ops sett F ?_ s st ⟨LawfulScore.lt_irrefl _, hn⟩).1
  -- one location: the local total is not lower, hence (`TotalFaithful`) neither is the global one
  rintro location s1 st ⟨h1, hn1⟩
  rcases C02.optimizeLocation_cases ops ev lz ini hp hq sett F n hfit location s1 st hn1 with
    h | ⟨a, b, LF, _, hLFo, hag, _, hlow⟩
  · rw [h]; exact ⟨h1, hn1⟩
  · exact ⟨notLower_trans h1 (hT a b s1 _ LF hn1 hag hLFo hlow), hag.1.trans hn1⟩

end Dna.C03
