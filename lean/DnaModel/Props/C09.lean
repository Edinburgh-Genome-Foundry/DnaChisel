/-
C09 — localized objectives measure exactly the global score change of a local edit.

* `wsum_local`, the windowed-sum identity: for a score `Σ_{i=a}^{b-k} f i (s[i..i+k))`, restricting the sum to
  `[max a (wa-(k-1)), min b (wb+(k-1)))` preserves the score difference of two sequences that agree outside `[wa, wb)`;
* `scoreFaithful_of_wsum`: hence a built-in objective whose score is minus such a sum and whose `localized` cuts the
  location accordingly satisfies `ScoreFaithful` (windowed EnforceGCContent, `k = w`; AvoidChanges, `k = 1`);
* `totalFaithful_of_scoreFaithful`: `ScoreFaithful` per objective gives the hypothesis of `C03.optimize_never_lowers` (over ℚ).
Pattern counts, per-codon classes, EnforceSequence / EnforceChanges objectives, reverse strands: law oracle.
-/
import DnaModel.Props.C08
import DnaModel.Props.C03
import Mathlib.Algebra.BigOperators.Intervals
import Mathlib.Tactic.Linarith

namespace Dna.C09
open Dna

/-- windowed additive score; the term may depend on the position (AvoidChanges) -/
def wsum {M : Type} [AddCommMonoid M] (f : ℕ → Seq → M) (k a b : ℕ) (s : Seq) : M :=
  ∑ i ∈ Finset.Ico a (b + 1 - k), f i (win s i k)

/-- **the localisation identity**: windows that miss the edit contribute the same to both sums -/
theorem wsum_local {M : Type} [AddCommGroup M] (f : ℕ → Seq → M) (k a b wa wb : ℕ) (hk : 0 < k) (s t : Seq)
    (h : C08.AgreeOutside wa wb s t) :
    wsum f k a b t - wsum f k a b s
      = wsum f k (max a (wa - (k - 1))) (min b (wb + (k - 1))) t
        - wsum f k (max a (wa - (k - 1))) (min b (wb + (k - 1))) s := by
  unfold wsum
  rw [← Finset.sum_sub_distrib, ← Finset.sum_sub_distrib]
  symm
  refine Finset.sum_subset (Finset.Ico_subset_Ico (by omega) (by omega)) fun i hi hni => ?_
  rw [Finset.mem_Ico] at hi hni
  rw [C08.win_eq_of_agree s t wa wb h i k (by omega), sub_self]

def wscore (f : Seq → ℤ) (k a b : ℕ) (s : Seq) : ℤ :=
  ∑ i ∈ Finset.Ico a (b + 1 - k), f (win s i k)

/-- **the localisation identity** for position-independent integer terms (counts) -/
theorem wscore_local (f : Seq → ℤ) (k a b wa wb : ℕ) (hk : 0 < k) (s t : Seq)
    (h : C08.AgreeOutside wa wb s t) :
    wscore f k a b t - wscore f k a b s
      = wscore f k (max a (wa - (k - 1))) (min b (wb + (k - 1))) t
        - wscore f k (max a (wa - (k - 1))) (min b (wb + (k - 1))) s :=
  wsum_local (fun _ => f) k a b wa wb hk s t h

/-- rational-valued version (GC excess) -/
def wscoreQ (f : Seq → ℚ) (k a b : ℕ) (s : Seq) : ℚ :=
  ∑ i ∈ Finset.Ico a (b + 1 - k), f (win s i k)

theorem wscoreQ_local (f : Seq → ℚ) (k a b wa wb : ℕ) (hk : 0 < k) (s t : Seq)
    (h : C08.AgreeOutside wa wb s t) :
    wscoreQ f k a b t - wscoreQ f k a b s
      = wscoreQ f k (max a (wa - (k - 1))) (min b (wb + (k - 1))) t
        - wscoreQ f k (max a (wa - (k - 1))) (min b (wb + (k - 1))) s :=
  wsum_local (fun _ => f) k a b wa wb hk s t h

/-- when localization yields nothing the edit does not change the score (or whether `evaluate` raises) -/
theorem none_diff_zero (b : BSpec ℚ) (l w : Loc) (rh : Option Bool) (s t : Seq)
    (hb : C08.regionOf b = some l) (hl : l.Nonempty) (hl0 : 0 ≤ l.start) (hw : w.Nonempty) (hw0 : 0 ≤ w.start)
    (hst : l.strand = 1 ∨ l.strand = -1 ∨ l.strand = 0)
    (hsize : ∀ p l', b = .avoidPattern p l' → 1 ≤ p.size)
    (hwin : ∀ mi ma k l', b = .gc mi ma (some k) l' → 1 ≤ k)
    (hnone : b.localized w rh = .none) (hag : C08.AgreeOutside w.start w.stop s t) :
    (b.evaluate s).map (·.score) = (b.evaluate t).map (·.score) := by
  rw [C08.localized_none_unchanged b l w rh s t hb hl hl0 hw hw0 hst hsize hwin hnone hag]

/-! ### from the per-objective identity to the solver's totals (exact arithmetic) -/
section totals
open Dna.Pure Dna.Solver
variable {σ : Type} [BEq σ]

/-- **C09 for one objective, as the solver uses it**: for an edit confined to the window, the localized and
    re-initialised objective's score changes by exactly the global score change (and keeps its boost); when
    localization yields nothing the global score does not change -/
def ScoreFaithful (n : ℕ) (ops : SpecOps σ ℚ) (ev : σ → Seq → Eval ℚ) (lz : σ → Loc → Seq → Option σ)
    (ini : σ → Seq → Role → σ) (o : σ) : Prop :=
  ∀ (a b : ℕ) (s t : Seq), s.length = n → C02.AgreeOut a b s t →
    match lz o ⟨a, b, 0⟩ s with
    | none => (ev o t).score = (ev o s).score
    | some o1 =>
      (ev (ini o1 s .objective) t).score - (ev (ini o1 s .objective) s).score = (ev o t).score - (ev o s).score ∧
      ops.boost (ini o1 s .objective) = ops.boost o

omit [BEq σ] in
theorem totalFrom_eq (ops : SpecOps σ ℚ) (ev : σ → Seq → Eval ℚ) (s : Seq) (os : List σ) (acc : ℚ) :
    totalFrom ops ev s os acc = acc + (os.map (fun o => ops.boost o * (ev o s).score)).sum :=
  Score.foldl_add_rat (fun o => ops.boost o * (ev o s).score) os acc

omit [BEq σ] in
theorem total_diff (ops : SpecOps σ ℚ) (ev : σ → Seq → Eval ℚ) (s t : Seq) (os : List σ) :
    totalFrom ops ev t os Score.zero - totalFrom ops ev s os Score.zero =
      (os.map (fun o => ops.boost o * ((ev o t).score - (ev o s).score))).sum := by
  rw [totalFrom_eq, totalFrom_eq]
  induction os with
  | nil => simp
  | cons o os ih =>
    simp only [List.map_cons, List.sum_cons]
    rw [Score.zero_rat] at ih ⊢
    linarith

set_option linter.unusedSectionVars false in
/-- the weighted score change summed over the local objectives equals the one summed over the problem's objectives -/
theorem local_sum_eq (n : ℕ) (ops : SpecOps σ ℚ) (ev : σ → Seq → Eval ℚ) (lz ini) (a b : ℕ) (s t : Seq) (hn : s.length = n)
    (hag : C02.AgreeOut a b s t) (os : List σ) (h : ∀ o ∈ os, ScoreFaithful n ops ev lz ini o) :
    (((((os.filter (fun o => !Score.eq (ops.boost o) (Score.zero : ℚ))).filterMap (fun o => lz o ⟨a, b, 0⟩ s)).map
        (fun o => ini o s .objective))).map (fun o => ops.boost o * ((ev o t).score - (ev o s).score))).sum =
    (os.map (fun o => ops.boost o * ((ev o t).score - (ev o s).score))).sum := by
  induction os with
  | nil => rfl
  | cons o os ih =>
    have hf := h o List.mem_cons_self a b s t hn hag
    rw [List.map_cons, List.sum_cons, ← ih fun o' ho' => h o' (List.mem_cons_of_mem _ ho'), List.filter_cons]
    split
    · -- an objective that counts: absent locally when its score does not change, else present with the same change
      rw [List.filterMap_cons]
      split at hf
      · rename_i hl
        rw [hl, hf, sub_self, mul_zero, zero_add]
      · rename_i o1 hl
        rw [hl, List.map_cons, List.map_cons, List.sum_cons, hf.1, hf.2]
    · -- boost 0: dropped locally, contributes 0 globally
      rename_i hz
      rw [Score.eq_rat, Score.zero_rat, Bool.not_eq_true', beq_eq_false_iff_ne, ne_eq, not_not] at hz
      rw [hz, zero_mul, zero_add]

/-- **C09 ⇒ the hypothesis of `C03.optimize_never_lowers`**, in exact arithmetic -/
theorem totalFaithful_of_scoreFaithful (n : ℕ) (ops : SpecOps σ ℚ) (ev : σ → Seq → Eval ℚ) (lz ini) (F : Frame σ)
    (h : ∀ o ∈ F.objectives, ScoreFaithful n ops ev lz ini o) : C03.TotalFaithful n ops ev lz ini F := by
  intro a b s t LF hn hag hobj hloc
  have h1 := total_diff ops ev s t LF.objectives
  have h2 := total_diff ops ev s t F.objectives
  rw [hobj, C02.localObjectives, local_sum_eq n ops ev lz ini a b s t hn hag F.objectives h, ← h2] at h1
  rw [Score.lt_eq_false_rat, total, total] at hloc ⊢
  rw [hobj, C02.localObjectives] at hloc
  linarith

/-- **C03, whole problem, exact arithmetic**: objectives satisfying the C09 identity are never traded down by `optimize()` -/
theorem optimize_never_lowers_rat (ops : SpecOps σ ℚ) (ev lz ini) (sett : Settings) (F : Frame σ) (n : ℕ)
    (hp : PureEval ops ev) (hq : C02.PureObj ops lz ini)
    (hfit : ∀ a b : ℤ, C15.ChoicesFit n (F.space.localized a b).multichoices)
    (h : ∀ o ∈ F.objectives, ScoreFaithful n ops ev lz ini o) (s : Seq) (st : St σ ℚ) (hn : s.length = n) :
    total ops ev F s ≤ total ops ev F (optimize ops sett F s st).2.1 :=
  Score.lt_eq_false_rat.1
    (C03.optimize_never_lowers ops ev lz ini sett F n hp hq hfit (totalFaithful_of_scoreFaithful n ops ev lz ini F h) s st hn)

end totals

/-! ### closed statements for the built-in model (objects of `C08.bOps`) -/
open Dna.Pure Dna.Solver

attribute [local instance] C08.instBEqBSpecRat

/-- `localized` returns the specification itself (global GC bounds or target, partial EnforceChanges, EnforceChoice,
    budgeted AvoidChanges, …): the local score *is* the global score -/
theorem same_scoreFaithful (n : ℕ) (b : BSpec ℚ) (h : ∀ w, b.localized w none = .same) :
    ScoreFaithful n C08.bOps C08.evB C08.lzB C08.iniB b := by
  intro a c s t _ _
  simp only [C08.lzB, h]
  exact ⟨rfl, rfl⟩

theorem agreeOut_empty (wa wb : ℕ) (s t : Seq) (hag : C02.AgreeOut wa wb s t) (hw : ¬ wa < wb) : t = s :=
  (C08.eq_of_agree_empty wa wb s t (C08.agreeOutside_of_agreeOut wa wb s t hag) (by omega)).symm

/-- **C09 for a built-in objective whose score is minus a windowed sum** over `[a, c)` (window size `k`, terms `f`),
    provided that for every non-empty edit window `localized` returns `None` only when the window misses `[a, c)`, and
    otherwise a specification scoring minus the same sum over `[a, c) ∩ [wa-(k-1), wb+(k-1))` -/
theorem scoreFaithful_of_wsum (n : ℕ) (b : BSpec ℚ) (f : ℕ → Seq → ℚ) (k a c : ℕ) (hk : 0 < k)
    (hev : ∀ u : Seq, u.length = n → (C08.evB b u).score = -wsum f k a c u)
    (hlz : ∀ wa wb : ℕ, wa < wb →
      match b.localized ⟨wa, wb, 0⟩ none with
      | .new b' => ∀ u : Seq, u.length = n →
          (C08.evB b' u).score = -wsum f k (max a (wa - (k - 1))) (min c (wb + (k - 1))) u
      | .none => ¬ max a wa < min c wb
      | _ => False) :
    ScoreFaithful n C08.bOps C08.evB C08.lzB C08.iniB b := by
  intro wa wb s t hn hag
  have htn : t.length = n := hag.1.trans hn
  by_cases hw : wa < wb
  case neg =>
    rw [agreeOut_empty wa wb s t hag hw]
    split
    · rfl
    · exact ⟨by rw [sub_self, sub_self], rfl⟩
  have hag' := C08.agreeOutside_of_agreeOut wa wb s t hag
  have hl := hlz wa wb hw
  simp only [C08.lzB]
  split at hl
  · rename_i b' hb'
    simp only [hb', C08.iniB]
    refine ⟨?_, rfl⟩
    rw [hev t htn, hev s hn, hl t htn, hl s hn]
    linarith [wsum_local f k a c wa wb hk s t hag']
  · rename_i hnone
    simp only [hnone]
    -- the window misses the region: no window of the sum meets the edit
    rw [hev t htn, hev s hn]
    refine congrArg Neg.neg (Finset.sum_congr rfl fun i hi => ?_)
    rw [Finset.mem_Ico] at hi
    rw [C08.win_eq_of_agree s t wa wb hag' i k (by omega)]
  · exact hl.elim

/-! ### AvoidChanges as an objective -/

theorem filter_length_eq_sum (p : ℕ → Bool) (m : ℕ) :
    (((List.range m).filter p).length : ℚ) = ∑ i ∈ Finset.range m, if p i then 1 else 0 := by
  induction m with
  | zero => simp
  | succ m ih =>
    rw [List.range_succ, List.filter_append, List.length_append, Finset.sum_range_succ, ← ih]
    cases hp : p m <;> simp [hp]

/-- `g i`: the letter the target wants at position `i` of the sequence -/
theorem diffCount_win (u tg : Seq) (a b : ℕ) {g : ℕ → Option Char} (hab : a ≤ b) (hb : b ≤ u.length) (hlen : tg.length = b - a)
    (hg : ∀ i, i < b - a → tg[i]? = g (a + i)) :
    ((diffCount (win u a (b - a)) tg : ℕ) : ℚ) = wsum (fun i w => if w[0]? = g i then 0 else 1) 1 a b u := by
  rw [C19.diffCount_positions _ _ (by rw [length_win_of_le u (by omega), hlen]), length_win_of_le u (by omega),
    filter_length_eq_sum, wsum, Finset.sum_Ico_eq_sum_range, Nat.add_sub_cancel]
  apply Finset.sum_congr rfl
  intro i hi
  rw [Finset.mem_range] at hi
  rw [getElem?_win_of_lt u hi, getElem?_zero_win_one, ← hg i hi]
  by_cases h : u[a + i]? = tg[i]? <;> simp [h]

/-- **C09 for AvoidChanges as an objective** (no budget; forward / unstranded location `[a,b)` inside the sequence):
    an instance of `scoreFaithful_of_wsum` with `k = 1` -/
theorem avoidChanges_scoreFaithful (n : ℕ) (target : Seq) (a b : ℕ) (st : ℤ) (hst : st ≠ -1) (hab : a < b) (hb : b ≤ n)
    (hlen : target.length = b - a) :
    ScoreFaithful n C08.bOps C08.evB C08.lzB C08.iniB (.avoidChanges 0 target (.loc ⟨a, b, st⟩)) := by
  apply scoreFaithful_of_wsum n _ (fun i w => if w[0]? = target[i - a]? then 0 else 1) 1 a b (by omega)
  · intro u hu
    rw [C08.avoidChanges_score hst (by omega) (by omega) hlen]
    exact congrArg _ (diffCount_win u target a b (by omega) (by omega) hlen fun i _ => by rw [Nat.add_sub_cancel_left])
  · intro wa wb hw
    by_cases hov : max a wa < min b wb
    · rw [C08.avoidChanges_localized_eq target a b wa wb st 0 none hov]
      intro u hu
      have hl' : (win target (max a wa - a) (min b wb - max a wa)).length = min b wb - max a wa :=
        length_win_of_le _ (by omega)
      rw [C08.avoidChanges_score hst (by omega) (by omega) hl']
      -- the sliced target read at `i` is the target read at `max a wa - a + i`
      exact congrArg _ (diffCount_win u _ _ _ (by omega) (by omega) hl' fun i hi => by
        rw [getElem?_win_of_lt target hi, show max a wa + i - a = max a wa - a + i by omega])
    · rw [C08.avoidChanges_localized_none target a b wa wb st 0 none hab hw hov]
      exact hov

/-! ### windowed EnforceGCContent as an objective -/

def gcTerm (mini maxi : ℚ) (w : ℕ) (u : Seq) : ℚ := BSpec.gcBreach mini maxi (BSpec.frac (K := ℚ) (gcCount u, w))

/-- `wscoreQ (gcTerm …)` and the `wsum (fun _ => gcTerm …)` that `scoreFaithful_of_wsum` asks for unfold to the same sum:
    this closes both -/
theorem gc_evB (mini maxi : ℚ) (w : ℕ) (hw : 1 ≤ w) (a b : ℕ) (st : ℤ) (hst : st ≠ -1) (s : Seq) (hab : a ≤ b)
    (hb : b ≤ s.length) :
    (C08.evB (.gc mini maxi (some w) ⟨a, b, st⟩) s).score = -wscoreQ (gcTerm mini maxi w) w a b s :=
  C08.gc_score hw hst hab hb

/-- **C09 for windowed EnforceGCContent as an objective** (any bounds or target, window `w ≥ 1`, forward or
    unstranded region `[a,b)` inside the sequence): an instance of `scoreFaithful_of_wsum` with window size `w` -/
theorem gc_scoreFaithful (n : ℕ) (mini maxi : ℚ) (w : ℕ) (hw1 : 1 ≤ w) (a b : ℕ) (st : ℤ) (hst01 : st = 1 ∨ st = 0)
    (hab : a < b) (hb : b ≤ n) :
    ScoreFaithful n C08.bOps C08.evB C08.lzB C08.iniB (.gc mini maxi (some w) ⟨a, b, st⟩) := by
  have hst : st ≠ -1 := by omega
  apply scoreFaithful_of_wsum n _ (fun _ => gcTerm mini maxi w) w a b (by omega)
  · intro u hu
    exact gc_evB mini maxi w hw1 a b st hst u (by omega) (by omega)
  · intro wa wb hw
    by_cases hov : max a wa < min b wb
    · rw [C08.gc_localized_eq mini maxi w hw1 a b wa wb st 0 hov]
      intro u hu
      exact gc_evB mini maxi w hw1 _ _ st hst u (by omega) (by omega)
    · rw [C08.gc_localized_none mini maxi w a b wa wb st 0 none hab hw hov]
      exact hov

/-- region objectives whose `localized` returns the specification itself or `None` (EnforcePatternOccurence) -/
theorem sameOrNone_scoreFaithful (n : ℕ) (b : BSpec ℚ) (l : Loc) (hreg : C08.regionOf b = some l) (hl : l.Nonempty)
    (hl0 : 0 ≤ l.start) (hst : l.strand = 1 ∨ l.strand = -1 ∨ l.strand = 0)
    (hsize : ∀ p l', b = .avoidPattern p l' → 1 ≤ p.size) (hwin : ∀ mi ma k l', b = .gc mi ma (some k) l' → 1 ≤ k)
    (h : ∀ w, b.localized w none = .same ∨ b.localized w none = .none) :
    ScoreFaithful n C08.bOps C08.evB C08.lzB C08.iniB b := by
  intro a c s t _ hag
  simp only [C08.lzB]
  rcases h ⟨a, c, 0⟩ with h1 | h1
  · rw [h1]
    exact ⟨rfl, rfl⟩
  · rw [h1]
    by_cases hw : a < c
    · rw [C08.evB, C08.evB, C08.localized_none_unchanged b l ⟨a, c, 0⟩ none s t hreg hl hl0 (by simp only [Loc.Nonempty]; omega)
        (by simp) hst hsize hwin h1 (C08.agreeOutside_of_agreeOut a c s t hag)]
    · rw [agreeOut_empty a c s t hag hw]

/-- the objective classes whose C09 identity is a theorem of this file -/
inductive ProvenObj (n : ℕ) : BSpec ℚ → Prop where
  | avoidChanges (target : Seq) (a b : ℕ) (st : ℤ) (hst : st ≠ -1) (hab : a < b) (hb : b ≤ n)
      (hlen : target.length = b - a) : ProvenObj n (.avoidChanges 0 target (.loc ⟨a, b, st⟩))
  | gcWindowed (mini maxi : ℚ) (w : ℕ) (hw1 : 1 ≤ w) (a b : ℕ) (st : ℤ) (hst01 : st = 1 ∨ st = 0) (hab : a < b) (hb : b ≤ n) :
      ProvenObj n (.gc mini maxi (some w) ⟨a, b, st⟩)
  | patternOccurence (pat : Pattern) (occ : ℤ) (l : Loc) (hl : l.Nonempty) (hl0 : 0 ≤ l.start)
      (hst : l.strand = 1 ∨ l.strand = -1 ∨ l.strand = 0) : ProvenObj n (.patternOccurence pat occ l)
  | returnsSelf (b : BSpec ℚ) (h : ∀ w, b.localized w none = .same) : ProvenObj n b

theorem provenObj_scoreFaithful (n : ℕ) (b : BSpec ℚ) (h : ProvenObj n b) :
    ScoreFaithful n C08.bOps C08.evB C08.lzB C08.iniB b := by
  cases h with
  | avoidChanges target a b st hst hab hb hlen => exact avoidChanges_scoreFaithful n target a b st hst hab hb hlen
  | gcWindowed mini maxi w hw1 a b st hst01 hab hb => exact gc_scoreFaithful n mini maxi w hw1 a b st hst01 hab hb
  | patternOccurence pat occ l hl hl0 hst =>
    exact sameOrNone_scoreFaithful n _ l rfl hl hl0 hst (by intro p l' h; cases h) (by intro mi ma k l' h; cases h)
      (C08.patternOccurence_localized pat occ l)
  | returnsSelf b h => exact same_scoreFaithful n b h

/-- **C03, closed for the built-in model**: with objectives that are windowed EnforceGCContent or AvoidChanges regions
    (forward / unstranded), EnforcePatternOccurence, or localize to themselves (global GC bounds / target, partial
    EnforceChanges, EnforceChoice, budgets …), and *any* constraints, on a well-formed mutation space, `optimize()` never
    ends on a lower exact total — every setting, every tape, returning or raising -/
theorem builtin_optimize_never_lowers (sett : Settings) (F : Frame (BSpec ℚ)) (n : ℕ)
    (hfit : ∀ a b : ℤ, C15.ChoicesFit n (F.space.localized a b).multichoices)
    (hobj : ∀ o ∈ F.objectives, ProvenObj n o) (s : Seq) (st : St (BSpec ℚ) ℚ) (hn : s.length = n) :
    total C08.bOps C08.evB F s ≤ total C08.bOps C08.evB F (Solver.optimize C08.bOps sett F s st).2.1 :=
  optimize_never_lowers_rat C08.bOps C08.evB C08.lzB C08.iniB sett F n C08.bOps_pureEval C08.bOps_pureObj hfit
    (fun o ho => provenObj_scoreFaithful n o (hobj o ho)) s st hn

example : ProvenObj 10 (.avoidChanges 0 "TG".toList (.loc ⟨1, 3, 1⟩)) :=
  .avoidChanges _ 1 3 1 (by decide) (by decide) (by decide) (by decide)

end Dna.C09
