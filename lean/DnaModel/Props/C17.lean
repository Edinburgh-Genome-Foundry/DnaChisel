/-
C17 — edit accounting and summaries agree with the actual sequences.
Theorems about Model/Report.lean.  The objectives total is stated over exact scores, through Proofs/ScoreRat
(`Score.foldl_add_rat`).
-/
import DnaModel.Model.Report
import DnaModel.Props.C19
import DnaModel.Proofs.ScoreRat

namespace Dna.C17
open Dna Dna.Pure

/-! ### the code's numpy encoding is the run-length encoding -/

/-- `np.diff([0] + arr + [0]).nonzero()`, paired up, read from position `i` on: after a previous value `0` (no run open)
    it gives the runs; after a previous value `1`, with the start `st` of the open run put in front, the runs with that
    run open.  Only the first half is used; it becomes the second after a `true`, so the induction needs both -/
theorem pairUp_npDiff (arr : List Bool) (i : Nat) :
    pairUp (nonzeroFrom i (npDiff (0 :: (arr.map (fun b => if b then (1 : Int) else 0) ++ [0])))) = runsFrom i none arr ∧
    ∀ st, pairUp (st :: nonzeroFrom i (npDiff (1 :: (arr.map (fun b => if b then (1 : Int) else 0) ++ [0])))) =
      runsFrom i (some st) arr := by
  induction arr generalizing i with
  | nil => exact ⟨rfl, fun _ => rfl⟩
  | cons b bs ih =>
    -- one step of every function involved computes
    obtain ⟨h1, h2⟩ := ih (i + 1)
    cases b
    · -- after a `false` no run is open; one that was, `[st, i)`, is emitted
      exact ⟨h1, fun st => congrArg ((st, i) :: ·) h1⟩
    · -- after a `true` a run is open, from `i` or still from `st`
      exact ⟨h2 i, h2⟩

theorem pairUp_length : ∀ (l : List Nat), (pairUp l).length = l.length / 2
  | [] => rfl
  | [_] => by simp [pairUp]
  | a :: b :: r => by
    rw [pairUp, List.length_cons, pairUp_length r]
    exact (Nat.add_div_right r.length Nat.two_pos).symm

/-- `sequences_differences_segments` (np.diff / nonzero / pairing) is the run-length encoding of the mismatch array -/
theorem diffSegments_eq_runs (s t : Seq) : diffSegments s t = runs (diffArray s t) := by
  simp only [diffSegments, runs]
  rw [List.take_of_length_le (by rw [pairUp_length])]
  exact (pairUp_npDiff _ 0).1

/-! ### number_of_edits and the segments' total length -/

theorem diffCount_eq_countP_zip (s t : Seq) : diffCount s t = (s.zip t).countP (fun p => p.1 != p.2) := by
  have : List.zipWith (· != ·) s t = (s.zip t).map (fun p => p.1 != p.2) :=
    (List.map_zip_eq_zipWith (f := fun p : Char × Char => p.1 != p.2)).symm
  rw [diffCount, C19.diffArray_eq_zipWith, ← List.countP_eq_length_filter, this, List.countP_map]
  rfl

theorem segments_total (s t : Seq) : ((diffSegments s t).map (fun p => p.2 - p.1)).sum = diffCount s t := by
  rw [diffSegments_eq_runs, C19.runs_total]
  rfl

/-! ### edit features -/

theorem sliceN_eq_win (s : Seq) (a b : Nat) : sliceN s a b = win s a (b - a) := rfl

theorem mem_editFeatures (p : Life) (f : EditFeature) :
    f ∈ p.editFeatures ↔ (f.start, f.stop) ∈ runs (diffArray p.cur p.before) ∧
      f.labelBefore = sliceN p.before f.start f.stop ∧ f.labelAfter = sliceN p.cur f.start f.stop := by
  simp only [Life.editFeatures, diffSegments_eq_runs, List.mem_map, Prod.exists]
  constructor
  · rintro ⟨a, b, hm, rfl⟩
    exact ⟨hm, rfl, rfl⟩
  · rintro ⟨hm, h1, h2⟩
    exact ⟨f.start, f.stop, hm, by rw [← h1, ← h2]⟩

/-- the edit features cover exactly the positions where the current sequence differs from the original one -/
theorem editFeatures_cover (p : Life) (h : p.cur.length = p.before.length) (j : Nat) :
    (∃ f ∈ p.editFeatures, f.start ≤ j ∧ j < f.stop) ↔ ∃ hj : j < p.cur.length, p.cur[j] ≠ p.before[j]'(by omega) := by
  rw [← C19.diff_segments_cover p.cur p.before h j]
  simp only [Life.editFeatures, diffSegments_eq_runs, List.mem_map, exists_exists_and_eq_and]

/-- every feature is a non-empty in-range segment, labelled with the true `before=>after` sub-sequences, which differ
    at every position -/
theorem editFeatures_labels (p : Life) (h : p.cur.length = p.before.length) (f : EditFeature) (hf : f ∈ p.editFeatures) :
    f.start < f.stop ∧ f.stop ≤ p.cur.length ∧
    f.labelBefore = sliceN p.before f.start f.stop ∧ f.labelAfter = sliceN p.cur f.start f.stop ∧
    f.labelBefore.length = f.stop - f.start ∧ f.labelAfter.length = f.stop - f.start ∧
    ∀ k, k < f.stop - f.start → f.labelBefore[k]? ≠ f.labelAfter[k]? := by
  obtain ⟨hm, hb, ha⟩ := (mem_editFeatures p f).1 hf
  have hlt : f.start < f.stop := (C19.runs_sorted_separated _).2 _ hm
  -- the segment is `[start, start + n]`; each of its positions is in range and differs
  obtain ⟨n, hn⟩ := Nat.exists_eq_add_of_lt hlt
  have hpos := fun k (hk : k < n + 1) =>
    (editFeatures_cover p h (f.start + k)).1 ⟨f, hf, Nat.le_add_right _ _, hn ▸ Nat.add_lt_add_left hk _⟩
  have hstop : f.start + (n + 1) ≤ p.cur.length := (hpos n n.lt_succ_self).1
  have hlen : f.stop - f.start = n + 1 := by rw [hn, Nat.add_assoc, Nat.add_sub_cancel_left]
  rw [hb, ha, sliceN_eq_win, sliceN_eq_win, hlen]
  refine ⟨hlt, hn ▸ hstop, rfl, rfl, length_win_of_le _ (h ▸ hstop), length_win_of_le _ hstop, fun k hk => ?_⟩
  obtain ⟨hj, hne⟩ := hpos k hk
  rw [getElem?_win_of_lt _ hk, getElem?_win_of_lt _ hk, List.getElem?_eq_getElem (h ▸ hj), List.getElem?_eq_getElem hj]
  exact fun he => hne (Option.some.inj he).symm

/-- features are sorted and separated by at least one unedited position (maximal runs) -/
theorem editFeatures_separated (p : Life) : p.editFeatures.Pairwise (fun a b => a.stop < b.start) := by
  simp only [Life.editFeatures, diffSegments_eq_runs]
  rw [List.pairwise_map]
  exact (C19.runs_sorted_separated _).1

/-- the features' sizes add up to `number_of_edits()` -/
theorem editFeatures_total (p : Life) : (p.editFeatures.map (fun f => f.stop - f.start)).sum = p.numberOfEdits := by
  simp only [Life.editFeatures, List.map_map, Life.numberOfEdits]
  exact segments_total p.cur p.before

/-! ### histories: reports read the original and the current sequence only -/

theorem foldl_assign_before (p : Life) (hist : List Seq) : (hist.foldl Life.assign p).before = p.before := by
  induction hist generalizing p with
  | nil => rfl
  | cons s rest ih => exact ih _

/-- after any history of assignments to `sequence` (manual or by a solver method; none touches `sequence_before`:
    `foldl_assign_before`), `number_of_edits()` counts the differences between the *original* sequence and the last
    one assigned -/
theorem numberOfEdits_history (p : Life) (hist : List Seq) (s : Seq) (h : s.length = p.before.length) :
    ((hist ++ [s]).foldl Life.assign p).numberOfEdits =
      ((List.range s.length).filter (fun i => s[i]? != p.before[i]?)).length := by
  rw [List.foldl_append, List.foldl_cons, List.foldl_nil, Life.numberOfEdits, Life.assign, foldl_assign_before]
  exact C19.diffCount_positions s p.before h

/-! ### summaries -/

/-- the constraints summary announces SUCCESS exactly when every listed evaluation passes -/
theorem summary_success_iff (passes : List Bool) :
    summaryOf passes = .success ↔ ∀ b ∈ passes, b = true := by
  have hall : (passes.filter (fun b => !b)).isEmpty = true ↔ ∀ b ∈ passes, b = true := by
    simp [List.isEmpty_iff, List.filter_eq_nil_iff]
  rw [← hall, summaryOf]
  split <;> simp [*]

theorem summary_failure_count (passes : List Bool) (n : Nat) (h : summaryOf passes = .failure n) :
    n = passes.countP (fun b => !b) ∧ 0 < n := by
  rw [summaryOf] at h
  split at h
  · cases h
  · rename_i hne
    cases h
    exact ⟨List.countP_eq_length_filter.symm, List.length_pos_iff.2 (by simpa [List.isEmpty_iff] using hne)⟩

theorem render_success : Summary.render .success = "SUCCESS - all constraints evaluations pass" := rfl

/-! ### objectives total -/

/-- the reported objectives total is the boost-weighted sum of the scores (exact arithmetic) -/
theorem weightedTotal_rat (es : List (Rat × Rat)) : weightedTotal es = (es.map (fun e => e.1 * e.2)).sum :=
  (Score.foldl_add_rat (fun e : Rat × Rat => e.1 * e.2) es 0).trans (zero_add _)

/-- what the solver's `objective_scores_sum` computes for pure specifications is that same total -/
theorem total_eq_weightedTotal {σ K : Type} [Score K] (ops : SpecOps σ K) (ev : σ → Seq → Eval K) (F : Frame σ) (s : Seq) :
    total ops ev F s = weightedTotal (F.objectives.map (fun o => (ops.boost o, (ev o s).score))) := by
  simp only [total, totalFrom, weightedTotal, List.foldl_map]

/-! ### non-vacuity -/
-- `rw [String.toList_ofList]` unpacks a literal by a theorem (it reads `"ab"` as `String.ofList ['a', 'b']`); after
-- `simp only [String.reduceToList]` the kernel evaluates `String.toList` on it, quadratic in its length
example : (Life.mk "ATGCATGC".toList "ATGCATGC".toList |>.assign "TTGCAAAC".toList).editFeatures =
    [⟨0, 1, "A".toList, "T".toList⟩, ⟨5, 7, "TG".toList, "AA".toList⟩] := by
  repeat rw [String.toList_ofList]
  decide
example : (Life.mk "ATGCATGC".toList "TTGCAAAC".toList).numberOfEdits = 3 := by
  repeat rw [String.toList_ofList]
  decide
example : summaryOf [true, false, true, false] = .failure 2 := by decide

end Dna.C17
