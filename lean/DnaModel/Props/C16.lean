/-
C16 — Genbank annotations define the same problem as the Python API.
Theorems about Model/Label.lean (the label grammar as `from_label` parses it) and the registry generated from the
source (Gen/Tables.lean): `parse_render` (parse ∘ render = id for every abstract label over the documented token
alphabet, `:` or `=`), `parse_joined` / `parse_joined_blanks` (`&` lists), `fromLabel_surrounded` (blanks),
`formatAtom_*` (value typing), `registry_shorthands`, `fromFeatures_*` (record collection order).
-/
import DnaModel.Model.Label
import DnaModel.Gen.Tables

namespace Dna.C16
open Dna Dna.Label

/-! ### `do` blocks in `Except` -/

theorem ok_bind {ε α β} (a : α) (f : α → Except ε β) : (Except.ok a >>= f) = f a := rfl
theorem pure_eq_ok {ε α} (a : α) : (pure a : Except ε α) = .ok a := rfl

theorem mapM_ok {α β ε} {f : α → Except ε β} {g : α → β} {xs : List α} (h : ∀ x ∈ xs, f x = .ok (g x)) :
    xs.mapM f = .ok (xs.map g) := by
  induction xs with
  | nil => rfl
  | cons x xs ih =>
    simp [List.mapM_cons, h x (by simp), ih (fun y hy => h y (by simp [hy])), ok_bind, pure_eq_ok]

/-! ### splitting -/

-- the model splits on a character and on `", "`: each of the next three lemmas comes twice
theorem splitChar_prefix (sep : Char) (a b p : Str) (ps : List Str) (h : sep ∉ a) (hb : splitChar sep b = p :: ps) :
    splitChar sep (a ++ b) = (a ++ p) :: ps := by
  induction a with
  | nil => simpa using hb
  | cons c cs ih =>
    have hc : c ≠ sep := fun e => h (by simp [e])
    simp [splitChar, hc, ih (fun m => h (by simp [m])), consHead]

/-- `sep.join(parts)` for a one-character separator -/
def joinChar (sep : Char) : List Str → Str
  | [] => []
  | [t] => t
  | t :: ts => t ++ sep :: joinChar sep ts

theorem splitChar_joinChar (sep : Char) (parts : List Str) (hne : parts ≠ []) (h : ∀ p ∈ parts, sep ∉ p) :
    splitChar sep (joinChar sep parts) = parts := by
  fun_induction joinChar sep parts with
  | case1 => exact absurd rfl hne
  | case2 t => simpa using splitChar_prefix sep t [] [] [] (h t (by simp)) rfl
  | case3 t ts hts ih =>
    rw [List.forall_mem_cons] at h
    simpa using splitChar_prefix sep t (sep :: joinChar sep ts) [] ts h.1 (by simp [splitChar, ih hts h.2])

theorem forall_mem_joinChar {P : Char → Prop} (sep : Char) (parts : List Str) (hs : P sep)
    (h : ∀ p ∈ parts, ∀ c ∈ p, P c) : ∀ c ∈ joinChar sep parts, P c := by
  fun_induction joinChar sep parts with
  | case1 => simp
  | case2 t => simpa using h
  | case3 t ts hts ih =>
    simp only [List.forall_mem_append, List.forall_mem_cons] at h ⊢
    exact ⟨h.1, hs, ih h.2⟩

theorem splitCS_cons_of_ne (c : Char) (l : Str) (hc : c ≠ ',') : splitCS (c :: l) = consHead c (splitCS l) := by
  cases l <;> simp [splitCS, hc, consHead]

theorem splitCS_prefix (a b p : Str) (ps : List Str) (h : ',' ∉ a) (hb : splitCS b = p :: ps) :
    splitCS (a ++ b) = (a ++ p) :: ps := by
  induction a with
  | nil => simpa using hb
  | cons c cs ih =>
    rw [List.mem_cons, not_or] at h
    rw [List.cons_append, splitCS_cons_of_ne c _ (Ne.symm h.1), ih h.2]
    rfl

/-- `", ".join(parts)` -/
def joinCS : List Str → Str
  | [] => []
  | [t] => t
  | t :: ts => t ++ ',' :: ' ' :: joinCS ts

theorem splitCS_joinCS (parts : List Str) (hne : parts ≠ []) (h : ∀ p ∈ parts, ',' ∉ p) :
    splitCS (joinCS parts) = parts := by
  fun_induction joinCS parts with
  | case1 => exact absurd rfl hne
  | case2 t => simpa using splitCS_prefix t [] [] [] (h t (by simp)) rfl
  | case3 t ts hts ih =>
    rw [List.forall_mem_cons] at h
    simpa using splitCS_prefix t (',' :: ' ' :: joinCS ts) [] ts h.1 (by simp [splitCS, ih hts h.2])

theorem forall_mem_joinCS {P : Char → Prop} (parts : List Str) (h1 : P ',') (h2 : P ' ')
    (h : ∀ p ∈ parts, ∀ c ∈ p, P c) : ∀ c ∈ joinCS parts, P c := by
  fun_induction joinCS parts with
  | case1 => simp
  | case2 t => simpa using h
  | case3 t ts hts ih =>
    simp only [List.forall_mem_append, List.forall_mem_cons] at h ⊢
    exact ⟨h.1, h1, h2, ih h.2⟩

/-! ### blanks -/

/-- no blank at either end: what `strip` leaves alone -/
structure Trimmed (s : Str) : Prop where
  ne : s ≠ []
  head : ∀ c, s.head? = some c → isSpace c = false
  last : ∀ c, s.getLast? = some c → isSpace c = false

theorem Trimmed.of_no_space {s : Str} (hne : s ≠ []) (h : ∀ c ∈ s, isSpace c = false) : Trimmed s :=
  ⟨hne, fun c hc => h c (List.mem_of_mem_head? hc), fun c hc => h c (List.mem_of_mem_getLast? hc)⟩

theorem strip_surrounded (pre s post : Str) (hpre : ∀ c ∈ pre, isSpace c = true) (hpost : ∀ c ∈ post, isSpace c = true)
    (ht : Trimmed s) : strip (pre ++ s ++ post) = s := by
  obtain ⟨c, cs, rfl⟩ := List.exists_cons_of_ne_nil ht.ne
  have h1 : lstrip (pre ++ (c :: cs) ++ post) = c :: cs ++ post := by
    rw [lstrip, List.append_assoc, List.dropWhile_append_of_pos hpre, List.cons_append,
      List.dropWhile_cons_of_neg (by simp [ht.head c rfl])]
  obtain ⟨init, last, hil⟩ : ∃ init last, c :: cs = init ++ [last] :=
    ⟨_, _, (List.dropLast_concat_getLast ht.ne).symm⟩
  have hls : isSpace last = false := ht.last last (by simp [hil])
  rw [strip, h1, hil, rstrip, List.reverse_append, List.dropWhile_append_of_pos (by simpa using hpost)]
  simp [hls]

theorem strip_id {s : Str} (ht : Trimmed s) : strip s = s := by
  simpa using strip_surrounded [] s [] (by simp) (by simp) ht

/-! ### `formatAtom` on quoted and bare tokens -/

theorem quoted_none (s : Str) (h : s.head? ≠ some '\'') : quoted? s = none := by
  unfold quoted?
  split <;> simp_all

theorem quoted_quote (s : Str) : quoted? ('\'' :: s ++ ['\'']) = some s := by
  simp [quoted?]

/-- a quoted token yields its content, whatever it is -/
theorem formatAtom_quoted (s : Str) : formatAtom ('\'' :: s ++ ['\'']) = .str s := by
  rw [formatAtom, quoted_quote]

/-- sufficient syntactic condition for a bare token to stay a string -/
theorem formatAtom_bare (s : Str) (hq : s.head? ≠ some '\'')
    (h : ∀ c, (strip s).head? = some c →
      c.isDigit = false ∧ c ≠ '+' ∧ c ≠ '-' ∧ c ≠ '.' ∧ c.toLower ≠ 'i' ∧ c.toLower ≠ 'n') :
    formatAtom s = .str s := by
  -- neither `int()` nor `float()` gets past the first character of the stripped token
  have hnum : pyInt? s = none ∧ pyFloatOk s = false := by
    rw [pyInt?, pyFloatOk]
    cases ht : strip s with
    | nil => exact ⟨rfl, rfl⟩
    | cons c cs =>
      obtain ⟨hd, h1, h2, h3, h4, h5⟩ := h c (by simp [ht])
      have hl : isInfNan (c :: cs) = false := by simp [isInfNan, lower, h4, h5]
      refine ⟨by simp [h1, h2, digitPart, hd], ?_⟩
      have hs : dropSign (c :: cs) = c :: cs := by simp [dropSign, h1, h2]
      simp [hs, hl, floatBody, h3, dropDigitPart, hd]
  simp [formatAtom, quoted_none s hq, hnum]

/-! ### integers -/

def digitChar (d : Nat) : Char := Char.ofNat (d + 48)

theorem digitChar_isDigit : ∀ d, d < 10 → (digitChar d).isDigit = true := by decide
theorem digitVal_digitChar : ∀ d, d < 10 → digitVal (digitChar d) = d := by decide
theorem digitChar_not_space : ∀ d, d < 10 → isSpace (digitChar d) = false := by decide
theorem digitChar_ne_quote : ∀ d, d < 10 → digitChar d ≠ '\'' := by decide
theorem digitChar_ne_sign : ∀ d, d < 10 → digitChar d ≠ '+' ∧ digitChar d ≠ '-' := by decide

/-- shaped for `Digits.forall`: a finite check on the ten digit characters then holds of every character of `xs` -/
def Digits (xs : Str) : Prop := ∀ c ∈ xs, ∃ d < 10, c = digitChar d

theorem Digits.forall {P : Char → Prop} {xs : Str} (hd : Digits xs) (hP : ∀ d, d < 10 → P (digitChar d)) :
    ∀ c ∈ xs, P c := fun c hc => by
  obtain ⟨d, h, rfl⟩ := hd c hc
  exact hP d h

-- `h` is used by `decreasing_by` only.  Well-founded recursion: `decide` / `rfl` do not evaluate `renderNat 50`;
-- unfold with `rw [renderNat]`
set_option linter.unusedVariables false in
def renderNat (n : Nat) : Str :=
  if h : n < 10 then [digitChar n] else renderNat (n / 10) ++ [digitChar (n % 10)]
termination_by n
decreasing_by omega

def renderInt (n : Int) : Str :=
  match n with
  | .ofNat m => renderNat m
  | .negSucc m => '-' :: renderNat (m + 1)

def numVal (acc : Nat) (xs : Str) : Nat := xs.foldl (fun a c => a * 10 + digitVal c) acc

theorem digitPart_digits (xs : Str) (acc : Nat) (prev : Bool) (hd : ∀ c ∈ xs, c.isDigit = true) (hne : xs ≠ [] ∨ prev = true) :
    digitPart acc prev xs = some (numVal acc xs) := by
  induction xs generalizing acc prev with
  | nil => simpa [digitPart, numVal] using hne
  | cons c cs ih =>
    simp only [digitPart, hd c (by simp), if_true, numVal, List.foldl_cons]
    exact ih _ true (fun d hd' => hd d (by simp [hd'])) (Or.inr rfl)

theorem renderNat_ne_nil (n : Nat) : renderNat n ≠ [] := by
  rw [renderNat]
  split <;> simp

theorem renderNat_digits (n : Nat) : Digits (renderNat n) := by
  fun_induction renderNat n with
  | case1 n h => exact List.forall_mem_singleton.2 ⟨n, h, rfl⟩
  | case2 n h ih => exact List.forall_mem_append.2 ⟨ih, List.forall_mem_singleton.2 ⟨_, Nat.mod_lt n (by decide), rfl⟩⟩

theorem numVal_renderNat (n : Nat) : numVal 0 (renderNat n) = n := by
  fun_induction renderNat n with
  | case1 n h => simp [numVal, digitVal_digitChar n h]
  | case2 n h ih =>
    simp only [numVal, List.foldl_append, List.foldl_cons, List.foldl_nil] at ih ⊢
    rw [ih, digitVal_digitChar _ (Nat.mod_lt n (by decide))]
    exact Nat.div_add_mod' n 10

theorem pyInt_digits (xs : Str) (hd : Digits xs) (hne : xs ≠ []) :
    pyInt? xs = some (numVal 0 xs) ∧ pyInt? ('-' :: xs) = some (-(numVal 0 xs : Int)) := by
  have hsp : ∀ c ∈ xs, isSpace c = false := hd.forall digitChar_not_space
  have hdp := digitPart_digits xs 0 false (hd.forall digitChar_isDigit) (Or.inl hne)
  constructor
  · rw [pyInt?, strip_id (.of_no_space hne hsp)]
    obtain ⟨c, cs, rfl⟩ := List.exists_cons_of_ne_nil hne
    have hsign : ∀ c' ∈ c :: cs, c' ≠ '+' ∧ c' ≠ '-' := hd.forall digitChar_ne_sign
    obtain ⟨h1, h2⟩ := hsign c (by simp)
    simp [h1, h2, hdp]
  · rw [pyInt?, strip_id (.of_no_space (by simp) (List.forall_mem_cons.2 ⟨by decide, hsp⟩))]
    simp [hdp]

theorem pyInt_renderInt (n : Int) : pyInt? (renderInt n) = some n := by
  cases n with
  | ofNat m =>
    simp [renderInt, (pyInt_digits _ (renderNat_digits m) (renderNat_ne_nil m)).1, numVal_renderNat]
  | negSucc m =>
    simp [renderInt, (pyInt_digits _ (renderNat_digits _) (renderNat_ne_nil (m + 1))).2, numVal_renderNat, Int.negSucc_eq]

theorem quoted_renderInt (n : Int) : quoted? (renderInt n) = none := by
  apply quoted_none
  cases n with
  | ofNat m =>
    have hq : ∀ c ∈ renderNat m, c ≠ '\'' := (renderNat_digits m).forall digitChar_ne_quote
    exact fun hh => hq _ (List.mem_of_mem_head? hh) rfl
  | negSucc m => simp [renderInt]

theorem formatAtom_renderInt (n : Int) : formatAtom (renderInt n) = .int n := by
  simp [formatAtom, quoted_renderInt, pyInt_renderInt]

/-! ### abstract labels and their rendering -/

inductive AAtom where
  | int (n : Int)
  | float (t : Str)
  | bare (s : Str)
  | quoted (s : Str)

def AAtom.render : AAtom → Str
  | .int n => renderInt n
  | .float t => t
  | .bare s => s
  | .quoted s => '\'' :: s ++ ['\'']

def AAtom.val : AAtom → Atom
  | .int n => .int n
  | .float t => .float t
  | .bare s => .str s
  | .quoted s => .str s

inductive AVal where
  | atom (a : AAtom)
  | list (as : List AAtom)

def AVal.render : AVal → Str
  | .atom a => a.render
  | .list as => joinChar '|' (as.map AAtom.render)

def AVal.val : AVal → Val
  | .atom a => .atom a.val
  | .list as => .list (as.map AAtom.val)

/-- characters with a meaning in the label grammar (and what is outside the model's scope) -/
def special (c : Char) : Bool :=
  c == ',' || c == ':' || c == '=' || c == '|' || c == '(' || c == '&' || c == '\n' || decide (c.toNat ≥ 128)

def Clean (s : Str) : Prop := ∀ c ∈ s, special c = false

def AAtom.WF : AAtom → Prop
  | .int _ => True
  | .float t => Clean t ∧ t ≠ [] ∧ quoted? t = none ∧ pyInt? t = none ∧ pyFloatOk t = true
  | .bare s => Clean s ∧ s ≠ [] ∧ formatAtom s = .str s
  | .quoted s => Clean s

def AVal.WF : AVal → Prop
  | .atom a => a.WF
  | .list as => 2 ≤ as.length ∧ ∀ a ∈ as, a.WF

structure ALabel where
  role : Role
  name : Str
  pos : List AAtom
  kws : List (Str × AVal)

def roleChar : Role → Char
  | .constraint => '@'
  | .objective => '~'

def ALabel.args (sep : Char) (l : ALabel) : List Str :=
  l.pos.map AAtom.render ++ l.kws.map (fun kv => kv.1 ++ sep :: kv.2.render)

/-- the label text: `@name(p1, p2, k1:v1, k2:v2)` -/
def ALabel.render (sep : Char) (l : ALabel) : Str :=
  roleChar l.role :: (l.name ++ '(' :: (joinCS (l.args sep) ++ [')']))

/-- the layout of `ALabel.render` for any parameter text: what `lex_spec` is stated on -/
def labelText (role : Role) (name body : Str) : Str := roleChar role :: (name ++ '(' :: (body ++ [')']))

theorem ALabel.render_eq_labelText (sep : Char) (l : ALabel) :
    l.render sep = labelText l.role l.name (joinCS (l.args sep)) := rfl

def ALabel.parsed (l : ALabel) (cls : String) : Parsed :=
  ⟨l.role, cls, l.pos.map AAtom.val, l.kws.map (fun kv => (kv.1, kv.2.val))⟩

/-- the arguments `parseArgs` is to find, each half a `map` of the corresponding half of `ALabel.parsed`: the shape
    `splitArgs_pos` and `splitArgs_kws` rewrite -/
def ALabel.items (l : ALabel) : List Arg :=
  (l.pos.map AAtom.val).map Arg.pos ++ (l.kws.map fun kv => (kv.1, kv.2.val)).map fun kv => Arg.kw kv.1 kv.2

structure ALabel.WF (l : ALabel) : Prop where
  name_ne : l.name ≠ []
  name_clean : Clean l.name
  name_nospace : ∀ c ∈ l.name, isSpace c = false
  pos_wf : ∀ a ∈ l.pos, a.WF
  key_ne : ∀ kv ∈ l.kws, kv.1 ≠ []
  key_clean : ∀ kv ∈ l.kws, Clean kv.1
  key_not_location : ∀ kv ∈ l.kws, kv.1 ≠ "location".toList
  val_wf : ∀ kv ∈ l.kws, kv.2.WF
  keys_nodup : (l.kws.map (·.1)).Pairwise (· ≠ ·)

/-! ### cleanliness: a rendered part holds no separator of the levels of the grammar above it -/

theorem digitChar_not_special : ∀ d, d < 10 → special (digitChar d) = false := by decide

/-- `Clean` but for the separators `ok` of this level of the grammar -/
def CleanBut (ok : List Char) (s : Str) : Prop := ∀ c ∈ s, special c = false ∨ c ∈ ok

theorem Clean.but {s : Str} (h : Clean s) (ok : List Char) : CleanBut ok s := fun c hc => Or.inl (h c hc)

theorem CleanBut.mono {ok ok' : List Char} {s : Str} (h : CleanBut ok s) (hsub : ok ⊆ ok') : CleanBut ok' s :=
  fun c hc => (h c hc).imp_right (@hsub c)

theorem CleanBut.not_mem {ok : List Char} {s : Str} (h : CleanBut ok s) {x : Char} (hx : special x = true) (hok : x ∉ ok) :
    x ∉ s := fun hm => (h x hm).elim (by simp [hx]) hok

theorem Clean.not_mem {s : Str} (h : Clean s) {x : Char} (hx : special x = true) : x ∉ s :=
  (h.but []).not_mem hx List.not_mem_nil

theorem CleanBut.ascii {ok : List Char} {s : Str} (h : CleanBut ok s) (hok : ∀ c ∈ ok, c.toNat < 128) :
    ∀ c ∈ s, c.toNat < 128 := fun c hc => by
  rcases h c hc with h1 | h1
  · simp only [special, Bool.or_eq_false_iff, decide_eq_false_iff_not, Nat.not_le] at h1
    exact h1.2
  · exact hok c h1

theorem AAtom.render_clean (a : AAtom) (h : a.WF) : Clean a.render := by
  have hnat : ∀ m, Clean (renderNat m) := fun m => (renderNat_digits m).forall digitChar_not_special
  cases a with
  | int n =>
    cases n with
    | ofNat m => exact hnat m
    | negSucc m => exact List.forall_mem_cons.2 ⟨by decide, hnat (m + 1)⟩
  | float t => exact h.1
  | bare s => exact h.1
  | quoted s =>
    simp only [Clean, AAtom.render, List.cons_append, List.forall_mem_cons, List.forall_mem_append]
    exact ⟨by decide, h, by decide, by simp⟩

theorem AVal.render_clean (v : AVal) (h : v.WF) : CleanBut ['|'] v.render := by
  cases v with
  | atom a => exact (a.render_clean h).but _
  | list as =>
    refine forall_mem_joinChar '|' _ (Or.inr List.mem_cons_self) ?_
    simp only [List.forall_mem_map]
    exact fun a ha => (a.render_clean (h.2 a ha)).but _

theorem args_clean (sep : Char) (hsep : sep = ':' ∨ sep = '=') (l : ALabel) (h : l.WF) :
    ∀ a ∈ l.args sep, CleanBut [':', '=', '|'] a := by
  simp only [ALabel.args, List.forall_mem_append, List.forall_mem_map]
  refine ⟨fun x hx => (x.render_clean (h.pos_wf x hx)).but _, fun kv hkv => ?_⟩
  simp only [CleanBut, List.forall_mem_append, List.forall_mem_cons]
  exact ⟨(h.key_clean kv hkv).but _, Or.inr (by rcases hsep with rfl | rfl <;> simp),
    (kv.2.render_clean (h.val_wf kv hkv)).mono (by simp)⟩

theorem body_clean (sep : Char) (hsep : sep = ':' ∨ sep = '=') (l : ALabel) (h : l.WF) :
    CleanBut [',', ':', '=', '|'] (joinCS (l.args sep)) :=
  forall_mem_joinCS _ (Or.inr List.mem_cons_self) (Or.inl (by decide))
    fun p hp => (args_clean sep hsep l h p hp).mono (List.subset_cons_self _ _)

theorem label_clean (sep : Char) (hsep : sep = ':' ∨ sep = '=') (l : ALabel) (h : l.WF) :
    CleanBut ['(', ',', ':', '=', '|'] (l.render sep) := by
  simp only [CleanBut, ALabel.render, List.forall_mem_cons, List.forall_mem_append]
  exact ⟨Or.inl (by cases l.role <;> decide), h.name_clean.but _, Or.inr List.mem_cons_self,
    (body_clean sep hsep l h).mono (List.subset_cons_self _ _), Or.inl (by decide), by simp⟩

/-! ### values -/

theorem AAtom.render_ne_nil (a : AAtom) (h : a.WF) : a.render ≠ [] := by
  cases a with
  | int n =>
    cases n with
    | ofNat m => exact renderNat_ne_nil m
    | negSucc m => simp [AAtom.render, renderInt]
  | float t => exact h.2.1
  | bare s => exact h.2.1
  | quoted s => simp [AAtom.render]

theorem formatAtom_render (a : AAtom) (h : a.WF) : formatAtom a.render = a.val := by
  cases a with
  | int n => exact formatAtom_renderInt n
  | float t =>
    obtain ⟨_, _, hq, hi, hf⟩ := h
    simp [AAtom.render, AAtom.val, formatAtom, hq, hi, hf]
  | bare s => exact h.2.2
  | quoted s => exact formatAtom_quoted s

theorem joinChar_contains (sep : Char) (parts : List Str) (h : 2 ≤ parts.length) : sep ∈ joinChar sep parts := by
  match parts, h with
  | t :: u :: us, _ => simp [joinChar]

theorem formatKwValue_render (v : AVal) (h : v.WF) : formatKwValue v.render = v.val := by
  have hbar : ∀ a : AAtom, a.WF → '|' ∉ a.render := fun a ha => (a.render_clean ha).not_mem (by decide)
  cases v with
  | atom a =>
    simp [formatKwValue, AVal.render, AVal.val, formatAtom_render a h, hbar a h]
  | list as =>
    obtain ⟨hlen, hall⟩ := h
    have hin := joinChar_contains '|' (as.map AAtom.render) (by simpa using hlen)
    show formatKwValue (joinChar '|' (as.map AAtom.render)) = .list (as.map AAtom.val)
    rw [formatKwValue, if_pos (by simpa using hin), splitChar_joinChar '|' _ (by intro e; simp [List.map_eq_nil_iff.1 e] at hlen)
      (by simpa using fun a ha => hbar a (hall a ha)), List.map_map]
    exact congrArg _ (List.map_congr_left fun a ha => formatAtom_render a (hall a ha))

/-! ### arguments -/

theorem parseArg_pos (a : AAtom) (h : a.WF) : parseArg a.render = .ok (some (.pos a.val)) := by
  have hc := a.render_clean h
  have h1 : ':' ∉ a.render := hc.not_mem (by decide)
  have h2 : '=' ∉ a.render := hc.not_mem (by decide)
  simp [parseArg, a.render_ne_nil h, h1, h2, formatAtom_render a h]

theorem parseArg_kw (sep : Char) (hsep : sep = ':' ∨ sep = '=') (k : Str) (v : AVal) (hk : Clean k) (hv : v.WF) :
    parseArg (k ++ sep :: v.render) = .ok (some (.kw k v.val)) := by
  -- no separator but `|` occurs in key or value: the argument splits at `sep`, whichever it is
  have hno : ∀ s, special s = true → s ≠ '|' → s ∉ k ∧ s ∉ v.render := fun s hs hb =>
    ⟨hk.not_mem hs, (v.render_clean hv).not_mem hs (by simpa using hb)⟩
  have hsplit : ∀ s, special s = true → s ≠ '|' → splitChar s (k ++ s :: v.render) = [k, v.render] :=
    fun s hs hb => splitChar_joinChar s [k, v.render] (by simp) (by simpa using hno s hs hb)
  rcases hsep with rfl | rfl
  · simp [parseArg, parseKw, hsplit ':' (by decide) (by decide), formatKwValue_render v hv]
  · simp [parseArg, parseKw, hsplit '=' (by decide) (by decide), formatKwValue_render v hv, hno ':' (by decide) (by decide)]

theorem parseArgs_map {β : Type} {f : β → Str} {g : β → Arg} (xs : List β) (rest : List Str) (items : List Arg)
    (h : ∀ x ∈ xs, parseArg (f x) = .ok (some (g x))) (hr : parseArgs rest = .ok items) :
    parseArgs (xs.map f ++ rest) = .ok (xs.map g ++ items) := by
  induction xs with
  | nil => simpa using hr
  | cons x xs ih =>
    simp [parseArgs, h x (by simp), ih (fun y hy => h y (by simp [hy])), ok_bind, pure_eq_ok]

theorem parseArgs_args (sep : Char) (hsep : sep = ':' ∨ sep = '=') (l : ALabel) (h : l.WF) :
    parseArgs (l.args sep) = .ok l.items := by
  simp only [ALabel.args, ALabel.items, List.map_map, Function.comp_def]
  refine parseArgs_map l.pos _ _ (fun a ha => parseArg_pos a (h.pos_wf a ha)) ?_
  simpa using parseArgs_map l.kws [] []
    (fun kv hkv => parseArg_kw sep hsep kv.1 kv.2 (h.key_clean kv hkv) (h.val_wf kv hkv)) rfl

/-! ### positional / keyword separation -/

theorem splitArgs_pos (pos : List Atom) (rest : List Arg) (ps : List Atom) (ks : List (Str × Val)) :
    splitArgs (pos.map Arg.pos ++ rest) (ps, ks) = splitArgs rest (ps ++ pos, ks) := by
  induction pos generalizing ps with
  | nil => simp
  | cons a as ih => simp [splitArgs, ih]

theorem dictSet_fresh (d : List (Str × Val)) (k : Str) (v : Val) (h : ∀ e ∈ d, e.1 ≠ k) : dictSet d k v = d ++ [(k, v)] := by
  simp only [dictSet]
  rw [if_neg]
  simp only [List.any_eq_true, beq_iff_eq, not_exists, not_and]
  exact h

theorem splitArgs_kws (kws : List (Str × Val)) (ps : List Atom) (ks : List (Str × Val))
    (hnd : (kws.map (·.1)).Pairwise (· ≠ ·)) (hdisj : ∀ e ∈ ks, ∀ kv ∈ kws, e.1 ≠ kv.1) :
    splitArgs (kws.map (fun kv => Arg.kw kv.1 kv.2)) (ps, ks) = (ps, ks ++ kws) := by
  induction kws generalizing ks with
  | nil => simp [splitArgs]
  | cons kv rest ih =>
    simp only [List.map_cons, List.pairwise_cons, List.forall_mem_cons, List.forall_mem_map] at hnd hdisj
    rw [List.map_cons, splitArgs, dictSet_fresh ks kv.1 kv.2 (fun e he => (hdisj e he).1), ih _ hnd.2, List.append_assoc]
    · rfl
    · simp only [List.forall_mem_append, List.forall_mem_cons]
      exact ⟨fun e he => (hdisj e he).2, hnd.1, by simp⟩

/-! ### lexing -/

theorem lastParen_spec (a b : Str) (hb : '(' ∉ b) : lastParen (a ++ '(' :: b) = some a.length := by
  simp only [lastParen, List.reverse_append, List.reverse_cons, List.append_assoc, List.singleton_append]
  rw [List.dropWhile_append_of_pos (by simpa using fun x hx (e : x = '(') => hb (e ▸ hx))]
  simp [List.dropWhile]

theorem labelText_last (role : Role) (name body : Str) : (labelText role name body).getLast? = some ')' := by
  simp [labelText, List.getLast?_cons, List.getLast?_append]

theorem labelText_trimmed (role : Role) (name body : Str) : Trimmed (labelText role name body) where
  ne := by simp [labelText]
  head := by cases role <;> simp [labelText, roleChar] <;> decide
  last := by simp [labelText_last]; decide

/-- the test by which `lex` declares a text outside the model -/
theorem inScope_of (xs : Str) (h : ∀ c ∈ xs, c ≠ '\n' ∧ c.toNat < 128) :
    xs.any (fun c => c == '\n' || decide (c.toNat ≥ 128)) = false := by
  simpa [List.any_eq_false] using h

/-- `lex` on text of the shape its regular expression expects: a blank-free name, then a parenthesis group that holds
    no further `(` -/
theorem lex_spec (role : Role) (name body : Str) (hne : name ≠ []) (hns : ∀ c ∈ name, isSpace c = false)
    (hb : '(' ∉ body) (hnl : '\n' ∉ labelText role name body) (hascii : ∀ c ∈ labelText role name body, c.toNat < 128) :
    lex (labelText role name body) = .ok ⟨role, name, body⟩ := by
  -- the `\S+` run covers the name and the `(`; its last `(` is that one
  have hrun : (name ++ '(' :: (body ++ [')'])).takeWhile (fun c => !isSpace c) =
      name ++ '(' :: (body ++ [')']).takeWhile (fun c => !isSpace c) := by
    rw [List.takeWhile_append_of_pos (by simpa using hns), List.takeWhile_cons_of_pos (by decide)]
  have hpt : '(' ∉ (body ++ [')']).takeWhile (fun c => !isSpace c) := fun hm => by
    have := (List.takeWhile_sublist _).subset hm
    simp [hb] at this
  rw [lex, inScope_of _ fun c hc => ⟨fun e => hnl (e ▸ hc), hascii c hc⟩, if_neg (by simp)]
  simp only [strip_id (labelText_trimmed role name body), labelText_last]
  cases role <;> simp [labelText, roleChar, hrun, lastParen_spec _ _ hpt, hne]

theorem lex_render (sep : Char) (hsep : sep = ':' ∨ sep = '=') (l : ALabel) (h : l.WF) :
    lex (l.render sep) = .ok ⟨l.role, l.name, joinCS (l.args sep)⟩ := by
  have hc := label_clean sep hsep l h
  rw [l.render_eq_labelText] at hc ⊢
  exact lex_spec l.role l.name _ h.name_ne h.name_nospace ((body_clean sep hsep l h).not_mem (by decide) (by decide))
    (hc.not_mem (by decide) (by decide)) (hc.ascii (by decide))

/-! ### the round trip -/

theorem fromLabel_of_lex (reg : List (String × String)) (label : Str) (lx : Lexed) (cls : String) (args : List Arg)
    (hlex : lex label = .ok lx) (hreg : lookupName reg lx.name = some cls) (hargs : parseArgs (splitCS lx.params) = .ok args) :
    fromLabel reg label = .ok ⟨lx.role, cls, (splitArgs args ([], [])).1,
      (splitArgs args ([], [])).2.filter (fun e => e.1 != "location".toList)⟩ := by
  simp only [fromLabel, hlex, hreg, hargs, ok_bind, pure_eq_ok]

/-- the empty parameter text gives one empty argument, which `parseArg` drops -/
theorem parseArgs_splitCS_joinCS (parts : List Str) (h : ∀ p ∈ parts, ',' ∉ p) :
    parseArgs (splitCS (joinCS parts)) = parseArgs parts := by
  by_cases hne : parts = []
  · subst hne; rfl
  · rw [splitCS_joinCS parts hne h]

/-- **parse ∘ render = id**: a label written from an abstract specification call (role, registered name, positional
    and keyword values; `:` or `=`) is read back as exactly that call -/
theorem parse_render (reg : List (String × String)) (sep : Char) (hsep : sep = ':' ∨ sep = '=') (l : ALabel) (h : l.WF)
    (cls : String) (hreg : lookupName reg l.name = some cls) :
    fromLabel reg (l.render sep) = .ok (l.parsed cls) := by
  rw [fromLabel_of_lex reg _ _ cls l.items (lex_render sep hsep l h) hreg (by
    rw [parseArgs_splitCS_joinCS _ fun p hp => (args_clean sep hsep l h p hp).not_mem (by decide) (by decide)]
    exact parseArgs_args sep hsep l h)]
  rw [ALabel.items, splitArgs_pos, splitArgs_kws _ _ _ (by rw [List.map_map]; exact h.keys_nodup)
      (fun _ he => absurd he List.not_mem_nil),
    List.filter_eq_self.2 fun e he => by
      obtain ⟨kv, hkv, rfl⟩ := List.mem_map.1 he; exact bne_iff_ne.2 (h.key_not_location kv hkv)]
  rfl

theorem colon_equals_same (reg : List (String × String)) (l : ALabel) (h : l.WF) (cls : String)
    (hreg : lookupName reg l.name = some cls) : fromLabel reg (l.render ':') = fromLabel reg (l.render '=') := by
  rw [parse_render reg ':' (Or.inl rfl) l h cls hreg, parse_render reg '=' (Or.inr rfl) l h cls hreg]

/-! ### blanks around a (sub-)label are ignored -/

theorem lex_surrounded (pre s post : Str) (hpre : ∀ c ∈ pre, isSpace c = true ∧ c ≠ '\n' ∧ c.toNat < 128)
    (hpost : ∀ c ∈ post, isSpace c = true ∧ c ≠ '\n' ∧ c.toNat < 128)
    (ht : Trimmed s) : lex (pre ++ s ++ post) = lex s := by
  have hs : strip (pre ++ s ++ post) = strip s := by
    rw [strip_surrounded pre s post (fun c hc => (hpre c hc).1) (fun c hc => (hpost c hc).1) ht, strip_id ht]
  simp only [lex, hs, List.any_append, inScope_of pre fun c hc => (hpre c hc).2, inScope_of post fun c hc => (hpost c hc).2,
    Bool.false_or, Bool.or_false]

/-- `@a & @b`: blanks around the `&` (or around a whole label) do not change what is read -/
theorem fromLabel_surrounded (reg : List (String × String)) (pre s post : Str)
    (hpre : ∀ c ∈ pre, isSpace c = true ∧ c ≠ '\n' ∧ c.toNat < 128)
    (hpost : ∀ c ∈ post, isSpace c = true ∧ c ≠ '\n' ∧ c.toNat < 128)
    (hne : s ≠ []) (hh : ∀ c, s.head? = some c → isSpace c = false) (hl : ∀ c, s.getLast? = some c → isSpace c = false) :
    fromLabel reg (pre ++ s ++ post) = fromLabel reg s := by
  simp only [fromLabel, lex_surrounded pre s post hpre hpost ⟨hne, hh, hl⟩]

/-! ### `&` lists -/

/-- the sub-labels of a `&` list, blanks around each or not, are read back as the list of those calls, in order.
    Items are indexed by any type `ι`, so that blanks, separator and class belong to the item, not to the label's
    value: the same label may occur twice with different blanks -/
theorem parse_joined_blanks {ι : Type} (reg : List (String × String)) (l : ι → ALabel) (seps : ι → Char) (pre post : ι → Str)
    (its : List ι) (hne : its ≠ []) (h : ∀ i ∈ its, (l i).WF ∧ (seps i = ':' ∨ seps i = '='))
    (hpre : ∀ i ∈ its, ∀ c ∈ pre i, isSpace c = true ∧ c ≠ '\n' ∧ c.toNat < 128)
    (hpost : ∀ i ∈ its, ∀ c ∈ post i, isSpace c = true ∧ c ≠ '\n' ∧ c.toNat < 128)
    (cls : ι → String) (hreg : ∀ i ∈ its, lookupName reg (l i).name = some (cls i)) :
    listFromLabel reg (joinChar '&' (its.map (fun i => pre i ++ (l i).render (seps i) ++ post i))) =
      .ok (its.map (fun i => (l i).parsed (cls i))) := by
  have hamp : ∀ xs : Str, (∀ c ∈ xs, isSpace c = true ∧ c ≠ '\n' ∧ c.toNat < 128) → '&' ∉ xs :=
    fun xs hxs hm => absurd (hxs _ hm).1 (by decide)
  rw [listFromLabel, splitChar_joinChar '&' _ (by simpa using hne) (by
    intro p hp
    obtain ⟨i, hi, rfl⟩ := List.mem_map.1 hp
    simp only [List.mem_append, not_or]
    exact ⟨⟨hamp _ (hpre i hi), (label_clean _ (h i hi).2 (l i) (h i hi).1).not_mem (by decide) (by decide)⟩, hamp _ (hpost i hi)⟩),
    List.mapM_map]
  refine mapM_ok fun i hi => ?_
  have ht : Trimmed ((l i).render (seps i)) := labelText_trimmed _ _ _
  exact (fromLabel_surrounded reg _ _ _ (hpre i hi) (hpost i hi) ht.ne ht.head ht.last).trans
    (parse_render reg (seps i) (h i hi).2 (l i) (h i hi).1 (cls i) (hreg i hi))

/-- without blanks, indexed by the labels themselves -/
theorem parse_joined (reg : List (String × String)) (seps : ALabel → Char) (ls : List ALabel) (hne : ls ≠ [])
    (h : ∀ l ∈ ls, l.WF ∧ (seps l = ':' ∨ seps l = '=')) (cls : ALabel → String)
    (hreg : ∀ l ∈ ls, lookupName reg l.name = some (cls l)) :
    listFromLabel reg (joinChar '&' (ls.map (fun l => l.render (seps l)))) = .ok (ls.map (fun l => l.parsed (cls l))) := by
  simpa using parse_joined_blanks reg id seps (fun _ => []) (fun _ => []) ls hne h (by simp) (by simp) cls hreg

/-! ### records -/

theorem findLabel_label (f : Feature) (c : Char) (r : Str) (h : f.label = some (c :: r)) (hc : c = '@' ∨ c = '~') :
    findLabel f = some (c :: r) := by
  rcases hc with rfl | rfl <;> simp [findLabel, specLabel?, h]

theorem specLabel_none (v : Option Str) (hv : ∀ c r, v = some (c :: r) → c ≠ '@' ∧ c ≠ '~') : specLabel? v = none := by
  unfold specLabel?
  split
  · rename_i c r; simp [hv c r rfl]
  · rfl

theorem findLabel_none (f : Feature) (hl : ∀ c r, f.label = some (c :: r) → c ≠ '@' ∧ c ≠ '~')
    (hn : ∀ c r, f.note = some (c :: r) → c ≠ '@' ∧ c ≠ '~') : findLabel f = none := by
  simp only [findLabel, specLabel_none f.label hl, specLabel_none f.note hn]

theorem fromFeatures_skip (reg : List (String × String)) (f : Feature) (fs : List Feature)
    (h : f.type ≠ "misc_feature" ∨ findLabel f = none) : fromFeatures reg (f :: fs) = fromFeatures reg fs := by
  rcases h with h | h
  · simp [fromFeatures, h]
  · by_cases ht : f.type = "misc_feature" <;> simp [fromFeatures, ht, h]

/-- a specification-bearing feature contributes its specifications, located at the feature, in label order, before
    those of the later features -/
theorem fromFeatures_cons (reg : List (String × String)) (f : Feature) (fs : List Feature) (l : Str) (specs : List Parsed)
    (cs os : List Located) (ht : f.type = "misc_feature") (hl : findLabel f = some l)
    (hs : listFromLabel reg l = .ok specs) (hr : fromFeatures reg fs = .ok (cs, os)) :
    fromFeatures reg (f :: fs) = .ok
      ((specs.map (fun p => (⟨p, f.start, f.stop, f.strand⟩ : Located))).filter (·.spec.role == .constraint) ++ cs,
       (specs.map (fun p => (⟨p, f.start, f.stop, f.strand⟩ : Located))).filter (·.spec.role == .objective) ++ os) := by
  simp [fromFeatures, ht, hl, hs, hr, ok_bind, pure_eq_ok]

/-! ### the registry generated from the source -/

theorem lookupName_cons_self (v s : String) (reg : List (String × String)) :
    lookupName ((s, v) :: reg) s.toList = some v := by
  simp [lookupName]

theorem lookupName_cons_of_ne (k v s : String) (reg : List (String × String)) (h : k ≠ s) :
    lookupName ((k, v) :: reg) s.toList = lookupName reg s.toList := by
  simp [lookupName, String.toList_inj, h]

/-- the documented shorthands resolve to the documented classes -/
theorem registry_shorthands :
    ∀ p ∈ [("no", "AvoidPattern"), ("keep", "AvoidChanges"), ("change", "EnforceChanges"), ("insert", "EnforcePatternOccurence"),
           ("sequence", "EnforceSequence"), ("choice", "EnforceChoice"), ("cds", "EnforceTranslation"), ("gc", "EnforceGCContent"),
           ("use_best_codon", "MaximizeCAI"), ("match_codon_usage", "MatchTargetCodonUsage"), ("harmonize_rca", "HarmonizeRCA"),
           ("all_unique_kmers", "UniquifyAllKmers"), ("CodonOptimize", "CodonOptimize")],
      lookupName Gen.specRegistry p.1.toList = some p.2 := by
  -- walked entry by entry: `String.reduceEq` tells `"no"` from `"keep"` without unpacking either into characters
  -- (what makes `decide` slow here)
  simp only [Gen.specRegistry, List.forall_mem_cons, List.not_mem_nil, false_imp_iff, implies_true, lookupName_cons_self,
    lookupName_cons_of_ne, ne_eq, String.reduceEq, not_false_eq_true, and_self]

/-- every class is registered under its own name as well -/
theorem registry_class_names : ∀ e ∈ Gen.specRegistry, lookupName Gen.specRegistry e.2.toList = some e.2 := by
  simp only [Gen.specRegistry, List.forall_mem_cons, List.not_mem_nil, false_imp_iff, implies_true, lookupName_cons_self,
    lookupName_cons_of_ne, ne_eq, String.reduceEq, not_false_eq_true, and_self]

/-! ### non-vacuity: a documented label meets the hypotheses and is parsed as stated -/

def exLabel : ALabel :=
  ⟨.constraint, "no".toList, [.bare "BsaI_site".toList], [("strand".toList, .atom (.bare "both".toList))]⟩

theorem exLabel_wf : exLabel.WF := by
  constructor <;> simp only [exLabel, Clean, AVal.WF, AAtom.WF, List.forall_mem_cons, List.not_mem_nil, false_imp_iff,
    implies_true, String.reduceToList] <;> decide

-- the literals are unpacked first, so that the elaborator computes on characters; by the theorem `String.toList_ofList`
-- (`rw` reads `"ab"` as `String.ofList ['a', 'b']`), since the simproc `String.reduceToList` leaves it to the kernel to
-- evaluate `String.toList`, at a cost quadratic in the length of the literal
theorem exLabel_render : exLabel.render '=' = "@no(BsaI_site, strand=both)".toList := by
  rw [exLabel]
  repeat rw [String.toList_ofList]
  rfl

example : exLabel.render '=' = "@no(BsaI_site, strand=both)".toList := exLabel_render
example : fromLabel Gen.specRegistry "@no(BsaI_site, strand=both)".toList =
    .ok ⟨.constraint, "AvoidPattern", [.str "BsaI_site".toList], [("strand".toList, .atom (.str "both".toList))]⟩ := by
  rw [← exLabel_render]
  exact parse_render _ '=' (Or.inr rfl) exLabel exLabel_wf _ (registry_shorthands ("no", "AvoidPattern") (.head _))
example : fromLabel Gen.specRegistry "~gc(40%, window:50)".toList =
    .ok ⟨.objective, "EnforceGCContent", [.str "40%".toList], [("window".toList, .atom (.int 50))]⟩ :=
  fromLabel_of_lex _ _ ⟨.objective, "gc".toList, "40%, window:50".toList⟩ _
    [.pos (.str "40%".toList), .kw "window".toList (.atom (.int 50))]
    (by
      repeat rw [String.toList_ofList]
      rfl)
    (registry_shorthands ("gc", "EnforceGCContent") (by simp))
    (by
      repeat rw [String.toList_ofList]
      rfl)
example : formatAtom "1e-3".toList = .float "1e-3".toList ∧ formatAtom "'12'".toList = .str "12".toList ∧
    formatAtom "e_coli -> h_sapiens".toList = .str "e_coli -> h_sapiens".toList := by
  repeat rw [String.toList_ofList]
  decide

end Dna.C16
