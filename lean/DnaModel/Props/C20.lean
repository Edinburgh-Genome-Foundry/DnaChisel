/-
C20 — scores, pass/optimal flags and declared best scores are mutually consistent.
-/
import DnaModel.Model.Builtin
import DnaModel.Props.C10
import DnaModel.Proofs.BuiltinEval
namespace Dna.C20
open Dna BSpec

/-! ### flags are functions of the score -/

/-- `evaluation.passes` is exactly `score >= 0` -/
theorem passes_iff_nonneg (e : Eval Rat) : e.passes = true ↔ 0 ≤ e.score := Eval.passes_rat e

theorem passes_iff_nonneg_int (e : Eval Int) : e.passes = true ↔ 0 ≤ e.score := by
  simp [Eval.passes, Score.le, Score.zero]

/-- the solver's "nothing left to optimise" test is `score == best_possible_score` with a declared best -/
theorem atBest_iff (ops : SpecOps σ Rat) (o : σ) (score : Rat) :
    Solver.atBest ops o score = true ↔ ∃ b, ops.best o = some b ∧ score = b := by
  simp only [Solver.atBest]
  cases ops.best o with
  | none => simp
  | some b => simp [Score.eq_rat]; exact eq_comm

/-! ### no sequence scores above the declared best (0) -/

theorem avoidPattern_le_best (pat : Pattern) (loc : Loc) (s : Seq) (e : BEval Rat)
    (h : evaluate (.avoidPattern pat loc) s = some e) : e.score ≤ 0 := by
  obtain ⟨ms, _, rfl⟩ := Option.map_eq_some_iff.1 (C10.avoidPattern_eval pat loc s ▸ h)
  exact NumK.ofInt_neg_le_zero _

theorem enforceChoice_le_best (choices : List Seq) (loc : Loc) (s : Seq) (e : BEval Rat)
    (h : evaluate (.enforceChoice choices loc) s = some e) : e.score ≤ 0 := by
  -- `evaluate` is a `map` over the extracted region
  obtain ⟨sub, hx, -⟩ := Option.map_eq_some_iff.1 h
  obtain rfl := Option.some.inj ((C10.enforceChoice_eval choices loc s sub hx).symm.trans h)
  exact NumK.ofInt_verdict_le_zero _

theorem lengthBounds_le_best (a : Int) (b : Option Int) (s : Seq) (e : BEval Rat)
    (h : evaluate (.lengthBounds a b) s = some e) : e.score ≤ 0 := by
  obtain rfl := Option.some.inj h
  exact NumK.ofInt_verdict_le_zero _

/-- the GC score, windowed or global, is minus a sum of non-negative excesses -/
theorem gc_score_shape (mini maxi : Rat) (fr : List (Nat × Nat)) :
    NumK.neg (NumK.sum (fr.map (fun p => gcBreach mini maxi (frac p)))) ≤ 0 ∧
    ((∀ p ∈ fr, mini ≤ frac p ∧ frac p ≤ maxi) →
      NumK.neg (NumK.sum (fr.map (fun p => gcBreach mini maxi (frac p)))) = 0) := by
  rw [NumK.neg_rat, NumK.sum_rat, neg_nonpos, neg_eq_zero]
  constructor
  · exact List.sum_nonneg (List.forall_mem_map.2 fun p _ => C08.gcBreach_nonneg _ _ _)
  · intro hall
    exact List.sum_eq_zero (List.forall_mem_map.2 fun p hp => (C08.gcBreach_eq_zero_iff _ _ _).2 (hall p hp))

theorem stopCodons_le_best (tbl : Nat) (loc : Loc) (s : Seq) (e : BEval Rat)
    (h : evaluate (.stopCodons tbl loc) s = some e) : e.score ≤ 0 := by
  simp only [evaluate] at h
  -- raising branches, as the bullets meet them: the region does not translate; (last) no table or no region
  split at h
  · split at h
    · cases h
    · cases h
      exact NumK.ofInt_neg_le_zero _
  · cases h

theorem translation_le_best (tbl : Nat) (st : StartPolicy) (tr : Seq) (loc : Loc) (s : Seq) (e : BEval Rat)
    (h : evaluate (.translation tbl st tr loc) s = some e) : e.score ≤ 0 := by
  simp only [evaluate] at h
  -- raising branches, as the bullets meet them: the region does not translate; (last) no table or no region;
  -- the guard: the translation is longer than the wanted protein
  split at h
  · split at h
    · cases h
    · rw [Option.ite_none_left_eq_some] at h
      cases h.2
      exact NumK.ofInt_neg_le_zero _
  · cases h

theorem enforceSequence_le_best (sq : Seq) (loc : Loc) (s : Seq) (e : BEval Rat)
    (h : evaluate (.enforceSequence sq loc) s = some e) : e.score ≤ 0 := by
  simp only [evaluate] at h
  -- raising branch: no region; the two guards: region longer than the IUPAC string, a position whose check raises
  split at h
  · cases h
  · rw [Option.ite_none_left_eq_some, Option.ite_none_left_eq_some] at h
    cases h.2.2
    exact NumK.ofInt_neg_le_zero _

/-- without an edit budget: the configuration of `AvoidChanges` as an objective -/
theorem avoidChanges_le_best (target : Seq) (scope : Scope) (s : Seq) (e : BEval Rat)
    (h : evaluate (.avoidChanges 0 target scope) s = some e) : e.score ≤ 0 := by
  simp only [evaluate] at h
  -- raising branch: no region; the guard: region and target of different lengths
  split at h
  · cases h
  · rw [Option.ite_none_left_eq_some] at h
    cases h.2
    -- the score is `0 - (number of edited positions)`
    exact sub_nonpos.2 (Int.cast_nonneg (Int.natCast_nonneg _))

theorem hairpins_le_best (stem window : Nat) (loc : Loc) (s : Seq) (e : BEval Rat)
    (h : evaluate (.hairpins stem window loc) s = some e) : e.score ≤ 0 := by
  simp only [evaluate, evaluateHairpins] at h
  -- raising branches, in order: no region; no reverse complement
  split at h
  · cases h
  · split at h
    · cases h
    · cases h
      exact NumK.ofInt_neg_le_zero _

theorem patternOccurence_le_best (pat : Pattern) (occ : Int) (loc : Loc) (s : Seq) (e : BEval Rat)
    (h : evaluate (.patternOccurence pat occ loc) s = some e) : e.score ≤ 0 := by
  obtain ⟨ms, _, rfl⟩ := Option.map_eq_some_iff.1 (C10.occurence_eval pat occ loc s ▸ h)
  rw [NumK.neg_rat, NumK.abs_rat]
  exact neg_nonpos.2 (abs_nonneg _)

theorem gc_le_best (mini maxi : Rat) (window : Option Nat) (loc : Loc) (s : Seq) (e : BEval Rat)
    (h : evaluate (.gc mini maxi window loc) s = some e) : e.score ≤ 0 := by
  simp only [evaluate] at h
  -- raising branches, in order: window of size 0; no region; the guard: empty region without a window (division by zero)
  split at h
  · cases h
  · split at h
    · cases h
    · rw [Option.ite_none_left_eq_some] at h
      cases h.2
      exact (gc_score_shape mini maxi _).1

/-! ### goal met completely ⇒ the score is exactly the declared best (0)

For a class with declared best 0 whose score never exceeds 0, "passes" (score ≥ 0) *is* "scores the best": the
characterisations of passing by the documented goal (`C08.*_passes_iff`, Proofs/BuiltinEval) give the second half of C20. -/

theorem goal_met_of_passes {b : BSpec Rat} {s : Seq} (hle : ∀ e, b.evaluate s = some e → e.score ≤ 0)
    (hp : C08.PassesB b s) : ∃ e, b.evaluate s = some e ∧ e.score = 0 :=
  let ⟨e, he, h0⟩ := hp
  ⟨e, he, le_antisymm (hle e he) h0⟩

/-- AvoidChanges: the region holds the original ⇒ score = best -/
theorem avoidChanges_goal_met (target : Seq) (a b : Nat) (st : Int) (hst : st ≠ -1) (s : Seq)
    (hab : a ≤ b) (hb : b ≤ s.length) (hlen : target.length = b - a) (hgoal : win s a (b - a) = target) :
    ∃ e, evaluate (.avoidChanges (0 : Rat) target (.loc ⟨a, b, st⟩)) s = some e ∧ e.score = 0 :=
  goal_met_of_passes (avoidChanges_le_best target _ s) ((C08.avoidChanges_passes_iff target a b st hst s hab hb hlen).2 hgoal)

/-- EnforceSequence: every position holds a nucleotide of its IUPAC letter ⇒ score = best -/
theorem enforceSequence_goal_met (sq : Seq) (a b : Nat) (st : Int) (hst : st ≠ -1) (s : Seq)
    (hab : a ≤ b) (hb : b ≤ s.length) (hlen : b - a ≤ sq.length)
    (hgoal : ∀ i, i < b - a → C08.SeqOk sq (win s a (b - a)) i) :
    ∃ e, evaluate (.enforceSequence (K := Rat) sq ⟨a, b, st⟩) s = some e ∧ e.score = 0 :=
  goal_met_of_passes (enforceSequence_le_best sq _ s) ((C08.enforceSequence_passes_iff sq a b st hst s hab hb).2 ⟨hlen, hgoal⟩)

/-- windowed EnforceGCContent: every full window within the bounds ⇒ score = best -/
theorem gc_goal_met (mini maxi : Rat) (w : Nat) (hw : 1 ≤ w) (a b : Nat) (st : Int) (hst : st ≠ -1) (s : Seq)
    (hab : a ≤ b) (hb : b ≤ s.length) (hgoal : ∀ i, i + w ≤ b - a → C08.GcOk mini maxi w s (a + i)) :
    ∃ e, evaluate (.gc mini maxi (some w) ⟨a, b, st⟩) s = some e ∧ e.score = 0 :=
  goal_met_of_passes (gc_le_best mini maxi _ _ s) ((C08.gc_passes_iff mini maxi w hw a b st hst s hab hb).2 hgoal)

/-- AvoidStopCodons: no codon of the frame is a stop (and all translate) ⇒ score = best -/
theorem stopCodons_goal_met (tbl : Nat) (t : Gen.CodonTable) (ht : tableOf tbl = some t) (a m : Nat) (st : Int)
    (hst : st ≠ -1) (s : Seq) (hb : a + 3 * m ≤ s.length) (hgoal : ∀ j, j < m → C08.CodonOk t (win s (a + 3 * j) 3)) :
    ∃ e, evaluate (.stopCodons (K := Rat) tbl ⟨a, (a + 3 * m : Nat), st⟩) s = some e ∧ e.score = 0 :=
  goal_met_of_passes (stopCodons_le_best tbl _ s) ((C08.stopCodons_passes_iff ht hst hb).2 hgoal)

/-- EnforceTranslation (no start-codon policy): every codon translates to its residue ⇒ score = best -/
theorem translation_goal_met (tbl : Nat) (t : Gen.CodonTable) (ht : tableOf tbl = some t) (tr : Seq) (a m : Nat) (st : Int)
    (hst : st ≠ -1) (s : Seq) (hb : a + 3 * m ≤ s.length) (hm : m ≤ tr.length)
    (hgoal : ∀ j, j < m → ∃ x, translateCodon t (win s (a + 3 * j) 3) = some x ∧ tr[j]? = some x) :
    ∃ e, evaluate (.translation (K := Rat) tbl .none tr ⟨a, (a + 3 * m : Nat), st⟩) s = some e ∧ e.score = 0 :=
  goal_met_of_passes (translation_le_best tbl _ tr _ s) ((C08.translation_passes_iff tbl t ht tr a m st hst s hb).2 ⟨hm, hgoal⟩)

end Dna.C20
