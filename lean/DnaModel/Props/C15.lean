/-
C15 — mutation-space operations stay inside the space and cover it.
Theorems about Model/Space.lean, for all spaces, sequences, tapes.  Every operation applies an assignment of variants to
pairwise disjoint choices (`applyMuts s combo` with `Assigns combo mc`); what such a sequence looks like is said once
(`applyMuts_readback`), and reading the assignment off a sequence (`readOff`) is its inverse.
-/
import DnaModel.Proofs.Cart
import DnaModel.Proofs.Splice
import DnaModel.Proofs.Merge
import DnaModel.Proofs.Slice

namespace Dna.C15
open Dna Choice Space Splice

/-! ### ordering on sequences: `seqLt` is the lexicographic order of `List Char` -/

theorem char_lt_iff (x y : Char) : x < y ↔ x.toNat < y.toNat := by
  rw [Char.lt_def, UInt32.lt_iff_toNat_lt]; rfl

theorem seqLt_iff (a b : Seq) : seqLt a b = true ↔ a < b := by
  induction a generalizing b with
  | nil => cases b <;> simp [seqLt]
  | cons x xs ih =>
    cases b with
    | nil => simp [seqLt]
    | cons y ys => simp [seqLt, ih, List.cons_lt_cons_iff, char_lt_iff]

theorem seqLe_iff (a b : Seq) : seqLe a b = true ↔ a ≤ b := by
  rw [← List.not_lt, ← seqLt_iff, seqLe]; simp

theorem seqLt_irrefl (a : Seq) : seqLt a a = false := by
  rw [← Bool.not_eq_true, seqLt_iff]; exact List.lt_irrefl a

theorem seqLe_total (a b : Seq) : (seqLe a b || seqLe b a) = true := by
  simpa only [Bool.or_eq_true, seqLe_iff] using List.le_total a b

theorem seqLe_trans (a b c : Seq) (h1 : seqLe a b = true) (h2 : seqLe b c = true) : seqLe a c = true := by
  rw [seqLe_iff] at *; exact List.le_trans h1 h2

theorem seqLe_antisymm (a b : Seq) (h1 : seqLe a b = true) (h2 : seqLe b a = true) : a = b := by
  rw [seqLe_iff] at *; exact List.le_antisymm h1 h2

theorem sortSeqs_perm (l : List Seq) : (sortSeqs l).Perm l := List.mergeSort_perm l seqLe

theorem sortSeqs_sorted (l : List Seq) : (sortSeqs l).Pairwise (fun a b => seqLe a b = true) :=
  List.pairwise_mergeSort seqLe_trans seqLe_total l

theorem distLe_total (cur : Nat) (a b : Seq × Nat) : (distLe cur a b || distLe cur b a) = true := by
  simp only [distLe, Bool.or_eq_true, decide_eq_true_eq, Bool.and_eq_true, beq_iff_eq]
  rcases Nat.lt_trichotomy (distTo cur a.2) (distTo cur b.2) with h | h | h
  · left; left; exact h
  · rcases Bool.or_eq_true_iff.1 (seqLe_total a.1 b.1) with h2 | h2
    · left; right; exact ⟨h, h2⟩
    · right; right; exact ⟨h.symm, h2⟩
  · right; left; exact h

theorem distLe_trans (cur : Nat) (a b c : Seq × Nat) (h1 : distLe cur a b = true) (h2 : distLe cur b c = true) :
    distLe cur a c = true := by
  simp only [distLe, Bool.or_eq_true, decide_eq_true_eq, Bool.and_eq_true, beq_iff_eq] at *
  rcases h1 with h1 | ⟨h1, h1'⟩ <;> rcases h2 with h2 | ⟨h2, h2'⟩
  · exact Or.inl (Nat.lt_trans h1 h2)
  · exact Or.inl (h2 ▸ h1)
  · exact Or.inl (h1 ▸ h2)
  · exact Or.inr ⟨h1.trans h2, seqLe_trans _ _ _ h1' h2'⟩

/-! ### the visiting order of one choice -/

theorem head?_mergeSort {α : Type} (le : α → α → Bool)
    (htrans : ∀ a b c, le a b = true → le b c = true → le a c = true)
    (htotal : ∀ a b, (le a b || le b a) = true)
    (l : List α) (x : α) (hx : x ∈ l) (hmin : ∀ y ∈ l, le y x = true → y = x) :
    (l.mergeSort le).head? = some x := by
  have hperm := List.mergeSort_perm l le
  have hsorted := List.pairwise_mergeSort htrans htotal l
  cases hl : l.mergeSort le with
  | nil => exact absurd (hl ▸ hperm.mem_iff.2 hx) List.not_mem_nil
  | cons e rest =>
    rw [hl] at hperm hsorted
    rcases List.mem_cons.1 (hperm.mem_iff.2 hx) with rfl | hrest
    · rfl
    · exact congrArg some (hmin e (hperm.mem_iff.1 List.mem_cons_self) ((List.pairwise_cons.1 hsorted).1 x hrest))

theorem distTo_eq_zero (cur i : Nat) : distTo cur i = 0 ↔ i = cur := by
  simp only [distTo]; split <;> omega

theorem indexOf?_of_mem (l : List Seq) (x : Seq) (h : x ∈ l) : ∃ i, indexOf? l x = some i ∧ l[i]? = some x := by
  induction l with
  | nil => cases h
  | cons a as ih =>
    rw [indexOf?]
    by_cases hax : a = x
    · exact ⟨0, if_pos (beq_iff_eq.2 hax), congrArg some hax⟩
    · obtain ⟨i, h1, h2⟩ := ih ((List.mem_cons.1 h).resolve_left (Ne.symm hax))
      exact ⟨i + 1, by rw [if_neg (mt beq_iff_eq.1 hax), h1, Option.map_some], h2⟩

/-- the order in which `all_variants` visits one choice -/
theorem variantsByDistance_spec (c : Choice) (s : Seq) :
    (variantsByDistance c s).Perm c.variants ∧
    (c.seg s ∈ c.variants → (variantsByDistance c s).head? = some (c.seg s)) := by
  simp only [variantsByDistance]
  constructor
  · refine ((List.mergeSort_perm _ _).map _).trans ?_
    rw [List.zipIdx_map_fst]; exact sortSeqs_perm _
  · intro hin
    obtain ⟨cur, hcur, hget⟩ := indexOf?_of_mem _ _ ((sortSeqs_perm _).mem_iff.2 hin)
    rw [hcur, Option.getD_some, List.head?_map,
      head?_mergeSort _ (distLe_trans cur) (distLe_total cur) _ (c.seg s, cur)]
    · rfl
    · exact List.mem_zipIdx_iff_getElem?.2 hget
    · -- the current variant is the only one at distance 0
      rintro ⟨v, i⟩ hy hle
      obtain ⟨rfl, -⟩ : i = cur ∧ seqLe v (c.seg s) = true := by
        simpa [distLe, (distTo_eq_zero cur cur).2 rfl, distTo_eq_zero] using hle
      rw [List.mem_zipIdx_iff_getElem?, hget] at hy
      exact Prod.ext (Option.some.inj hy.symm) rfl

/-! ### well-formed lists of choices -/

/-- the choices fit a sequence of length `n`, in increasing order (`mcFits_iff`); `ChoicesFit` below asks in addition
    that no segment is empty -/
def MCFits (n : Nat) : List Choice → Prop
  | [] => True
  | c :: rest => c.stop ≤ n ∧ c.start ≤ c.stop ∧ (∀ v ∈ c.variants, v.length = c.stop - c.start) ∧
      c.variants.Nodup ∧ (∀ r ∈ rest, c.stop ≤ r.start) ∧ MCFits n rest

def ChoicesFit (n : Nat) : List Choice → Prop
  | [] => True
  | c :: rest => c.stop ≤ n ∧ c.start < c.stop ∧ (∀ v ∈ c.variants, v.length = c.stop - c.start) ∧
      c.variants.Nodup ∧ (∀ r ∈ rest, c.stop ≤ r.start) ∧ ChoicesFit n rest

theorem mcFits_iff {n : Nat} {cs : List Choice} : MCFits n cs ↔
    (∀ c ∈ cs, c.stop ≤ n ∧ c.start ≤ c.stop ∧ (∀ v ∈ c.variants, v.length = c.stop - c.start) ∧ c.variants.Nodup) ∧
    cs.Pairwise (fun a b => a.stop ≤ b.start) :=
  forall_pairwise_of_cons trivial (fun _ _ => by simp only [MCFits, and_assoc]) cs

theorem choicesFit_iff {n : Nat} {cs : List Choice} : ChoicesFit n cs ↔
    (∀ c ∈ cs, c.stop ≤ n ∧ c.start < c.stop ∧ (∀ v ∈ c.variants, v.length = c.stop - c.start) ∧ c.variants.Nodup) ∧
    cs.Pairwise (fun a b => a.stop ≤ b.start) :=
  forall_pairwise_of_cons trivial (fun _ _ => by simp only [ChoicesFit, and_assoc]) cs

theorem mcFits_of_choicesFit {n : Nat} {l : List Choice} (h : ChoicesFit n l) : MCFits n l := by
  rw [choicesFit_iff] at h
  rw [mcFits_iff]
  exact ⟨fun c hc => ⟨(h.1 c hc).1, Nat.le_of_lt (h.1 c hc).2.1, (h.1 c hc).2.2⟩, h.2⟩

theorem choicesFit_filter {n : Nat} {cs : List Choice} (p : Choice → Bool) (h : ChoicesFit n cs) :
    ChoicesFit n (cs.filter p) := by
  rw [choicesFit_iff] at h ⊢
  exact ⟨fun c hc => h.1 c (List.mem_filter.1 hc).1, h.2.filter p⟩

theorem mem_multichoices {sp : Space} {c : Choice} : c ∈ sp.multichoices ↔ c ∈ sp.choicesList ∧ 2 ≤ c.variants.length := by
  simp [Space.multichoices]

/-- the well-formedness hypotheses of this file, from the one a constructed space provides
    (`C04.from_optimization_problem_fits`): `constrainSequence_spec` asks `ChoicesFit n sp.choicesList`,
    `applyRandomMutations_spec` this, `allVariants_enumerates` the next (the solver theorems ask the same of every
    localization: `C12.SpaceWF.localFit`) -/
theorem multichoices_choicesFit {sp : Space} {n : Nat} (h : ChoicesFit n sp.choicesList) :
    ChoicesFit n sp.multichoices :=
  choicesFit_filter _ h

theorem multichoices_fit (sp : Space) (n : Nat) (h : ChoicesFit n sp.choicesList) :
    MCFits n sp.multichoices :=
  mcFits_of_choicesFit (multichoices_choicesFit h)

theorem choicesFit_disjoint {n : Nat} {cs : List Choice} (h : ChoicesFit n cs) {a b : Choice}
    (ha : a ∈ cs) (hb : b ∈ cs) (hab : a ≠ b) : a.stop ≤ b.start ∨ b.stop ≤ a.start := by
  have hp := (choicesFit_iff.1 h).2
  exact List.Pairwise.forall_of_forall_of_flip (R := fun a b => a ≠ b → a.stop ≤ b.start ∨ b.stop ≤ a.start)
    (fun _ _ hne => absurd rfl hne) (hp.imp fun h _ => Or.inl h) (hp.imp fun h _ => Or.inr h) ha hb hab

theorem choicesFit_nodup {n : Nat} {cs : List Choice} (h : ChoicesFit n cs) : cs.Nodup := by
  rw [choicesFit_iff] at h
  exact h.2.imp_of_mem (fun ha _ hab e => by subst e; have := (h.1 _ ha).2.1; omega)

/-- fit a sequence of length `n`, pairwise disjoint, in any order -/
def CFits (n : Nat) (mc : List Choice) : Prop :=
  (∀ c ∈ mc, c.stop ≤ n ∧ c.start ≤ c.stop ∧ ∀ v ∈ c.variants, v.length = c.stop - c.start) ∧
  mc.Pairwise (fun a b => a.stop ≤ b.start ∨ b.stop ≤ a.start)

theorem cFits_of_mcFits {n : Nat} {mc : List Choice} (h : MCFits n mc) : CFits n mc := by
  rw [mcFits_iff] at h
  exact ⟨fun c hc => ⟨(h.1 c hc).1, (h.1 c hc).2.1, (h.1 c hc).2.2.1⟩, h.2.imp Or.inl⟩

/-! ### segments -/

theorem pySlice_seg (c : Choice) (s : Seq) : pySlice s (c.start : Int) (c.stop : Int) = c.seg s :=
  pySlice_natCast s c.start c.stop

theorem seg_eq_iff (c : Choice) (t u : Seq) :
    c.seg t = c.seg u ↔ ∀ i, c.start ≤ i → i < c.stop → t[i]? = u[i]? := by
  constructor
  · intro h i h1 h2
    simpa only [Merge.seg_eq_win, getElem?_win_sub _ h1 h2] using congrArg (·[i - c.start]?) h
  · exact fun h => win_congr t u _ _ (fun j hj => h _ (Nat.le_add_right _ _) (Nat.add_lt_of_lt_sub' hj))

theorem seg_congr (c : Choice) (t u : Seq) (h : ∀ i, c.start ≤ i → i < c.stop → t[i]? = u[i]?) :
    c.seg t = c.seg u := (seg_eq_iff c t u).2 h

theorem seg_splice_self (c : Choice) (t v : Seq) (hv : v.length = c.stop - c.start) (hc : c.start ≤ t.length) :
    c.seg (splice t c.start v) = v := by
  rw [Merge.seg_eq_win, splice]
  exact win_append_middle _ v _ (List.length_take_of_le hc) hv

theorem splice_seg_id (c : Choice) (t : Seq) (hc : c.stop ≤ t.length) : splice t c.start (c.seg t) = t := by
  have hl : (c.seg t).length = c.stop - c.start := by
    rw [Merge.seg_eq_win, length_win, Nat.min_eq_left (Nat.sub_le_sub_right hc _)]
  rw [splice, hl]
  exact take_win_drop t c.start (c.stop - c.start)

theorem seg_splice_other (d : Choice) (t : Seq) (st : Nat) (v : Seq) (hfit : st + v.length ≤ t.length)
    (hd : st + v.length ≤ d.start ∨ d.stop ≤ st) : d.seg (splice t st v) = d.seg t := by
  apply seg_congr
  intro i h1 h2
  rw [splice_getElem? t st v hfit, if_neg (by omega)]

theorem seg_eq_of_getElem? (c : Choice) (u v : Seq) (hl : v.length = c.stop - c.start)
    (h : ∀ k, k < v.length → u[c.start + k]? = v[k]?) : c.seg u = v :=
  (win_eq_iff_getElem? u v c.start hl).2 (hl ▸ h)

/-! ### assignments: applying one and reading it off are inverse -/

/-- `combo` assigns to every choice one of its variants -/
def Assigns : List (Nat × Seq) → List Choice → Prop := List.Forall₂ (fun m c => m.1 = c.start ∧ m.2 ∈ c.variants)

/-- the assignment that a sequence `t` carries -/
def readOff (mc : List Choice) (t : Seq) : List (Nat × Seq) := mc.map (fun c => (c.start, c.seg t))

/-- an assignment writes exactly the span of its choice; the only place where the variant lengths are used -/
theorem assigns_span (combo : List (Nat × Seq)) (mc : List Choice)
    (hlen : ∀ c ∈ mc, c.start ≤ c.stop ∧ ∀ v ∈ c.variants, v.length = c.stop - c.start) (ha : Assigns combo mc) :
    List.Forall₂ (fun m c => m.1 = c.start ∧ m.1 + m.2.length = c.stop ∧ m.2.length = c.stop - c.start) combo mc :=
  Cart.forall₂_imp_mem ha (fun m c _ hc hmc => by
    obtain ⟨h2, h3⟩ := hlen c hc
    exact ⟨hmc.1, by rw [hmc.1, h3 _ hmc.2, Nat.add_sub_cancel' h2], h3 _ hmc.2⟩)

theorem assigns_fits (n : Nat) (combo : List (Nat × Seq)) (mc : List Choice) (hm : MCFits n mc) (ha : Assigns combo mc) :
    Fits n combo := by
  obtain ⟨hall, hp⟩ := mcFits_iff.1 hm
  have hs := assigns_span combo mc (fun c hc => ⟨(hall c hc).2.1, (hall c hc).2.2.1⟩) ha
  rw [fits_iff]
  constructor
  · intro m hmem
    obtain ⟨c, hc, hmc⟩ := Cart.forall₂_mem_left hs hmem
    exact hmc.2.1 ▸ (hall c hc).1
  · exact Cart.forall₂_pairwise hs hp (fun a b a' b' h1 h2 hbb => h1.2.1 ▸ h2.1 ▸ hbb)

/-- **read-back**: after applying an assignment of pairwise disjoint choices (in any order) the assignment can be read
    off again; length and positions outside all segments are untouched -/
theorem applyMuts_readback (s : Seq) (combo : List (Nat × Seq)) (mc : List Choice)
    (hm : CFits s.length mc) (ha : Assigns combo mc) :
    (applyMuts s combo).length = s.length ∧ readOff mc (applyMuts s combo) = combo ∧
    (∀ i, (∀ c ∈ mc, ¬ (c.start ≤ i ∧ i < c.stop)) → (applyMuts s combo)[i]? = s[i]?) := by
  obtain ⟨hall, hp⟩ := hm
  have hs := assigns_span combo mc (fun c hc => (hall c hc).2) ha
  have hd : Disj s.length combo := by
    refine ⟨fun m hm => ?_, Cart.forall₂_pairwise hs hp (fun a b a' b' h1 h2 hbb => by
      rwa [h1.2.1, h2.2.1, h1.1, h2.1])⟩
    obtain ⟨c, hc, hmc⟩ := Cart.forall₂_mem_left hs hm
    exact hmc.2.1 ▸ (hall c hc).1
  obtain ⟨r1, r2, r3⟩ := applyMuts_disj s combo hd
  refine ⟨r1, ?_, fun i hi => r3 i (fun m hmem => ?_)⟩
  · symm
    rw [← List.forall₂_eq_eq_eq, readOff, List.forall₂_map_right_iff]
    exact Cart.forall₂_imp_mem hs (fun m c hmem _ hmc => Prod.ext hmc.1
      (seg_eq_of_getElem? c _ m.2 hmc.2.2 (fun k hk => hmc.1 ▸ r2 m hmem k hk)).symm)
  · obtain ⟨c, hc, hmc⟩ := Cart.forall₂_mem_left hs hmem
    rw [hmc.2.1, hmc.1]
    exact hi c hc

/-- the same, choice by choice: what is known (`P`) of each assigned variant holds of the segment read back -/
theorem applyMuts_segs (s : Seq) (combo : List (Nat × Seq)) (mc : List Choice) (P : Choice → Seq → Prop)
    (hm : CFits s.length mc)
    (hf : List.Forall₂ (fun m c => m.1 = c.start ∧ m.2 ∈ c.variants ∧ P c m.2) combo mc) :
    (applyMuts s combo).length = s.length ∧
    (∀ c ∈ mc, c.seg (applyMuts s combo) ∈ c.variants ∧ P c (c.seg (applyMuts s combo))) ∧
    (∀ i, (∀ c ∈ mc, ¬ (c.start ≤ i ∧ i < c.stop)) → (applyMuts s combo)[i]? = s[i]?) := by
  obtain ⟨r1, r2, r3⟩ := applyMuts_readback s combo mc hm (hf.imp fun _ _ h => ⟨h.1, h.2.1⟩)
  rw [← r2, readOff, List.forall₂_map_left_iff, List.forall₂_same] at hf
  exact ⟨r1, fun c hc => (hf c hc).2, r3⟩

theorem readOff_eq_iff (mc : List Choice) (t u : Seq) :
    readOff mc t = readOff mc u ↔ ∀ c ∈ mc, c.seg t = c.seg u := by
  simp [readOff, List.map_inj_left]

theorem assigns_readOff (mc : List Choice) (t : Seq) :
    Assigns (readOff mc t) mc ↔ ∀ c ∈ mc, c.seg t ∈ c.variants := by
  simp [Assigns, readOff, List.forall₂_map_left_iff, List.forall₂_same]

theorem applyMuts_injective (s : Seq) (mc : List Choice) (hm : CFits s.length mc)
    (c1 c2 : List (Nat × Seq)) (h1 : Assigns c1 mc) (h2 : Assigns c2 mc)
    (heq : applyMuts s c1 = applyMuts s c2) : c1 = c2 := by
  rw [← (applyMuts_readback s c1 mc hm h1).2.1, heq, (applyMuts_readback s c2 mc hm h2).2.1]

theorem eq_of_readOff_eq (mc : List Choice) (t u : Seq) (hin : readOff mc t = readOff mc u)
    (hout : ∀ i, (∀ c ∈ mc, ¬ (c.start ≤ i ∧ i < c.stop)) → t[i]? = u[i]?) : t = u := by
  rw [readOff_eq_iff] at hin
  refine List.ext_getElem? fun i => ?_
  -- a position where `t` and `u` differed would lie in no choice, since they agree inside every choice
  by_contra hne
  exact hne (hout i fun c hc hi => hne ((seg_eq_iff c t u).1 (hin c hc) i hi.1 hi.2))

theorem applyMuts_readOff (s t : Seq) (mc : List Choice) (hm : CFits s.length mc)
    (hin : ∀ c ∈ mc, c.seg t ∈ c.variants)
    (hout : ∀ i, (∀ c ∈ mc, ¬ (c.start ≤ i ∧ i < c.stop)) → t[i]? = s[i]?) :
    applyMuts s (readOff mc t) = t := by
  obtain ⟨_, r2, r3⟩ := applyMuts_readback s _ mc hm ((assigns_readOff mc t).2 hin)
  exact eq_of_readOff_eq mc _ _ r2 (fun i hi => by rw [r3 i hi, hout i hi])

theorem optAll_some {α : Type} (l : List (Option α)) (r : List α) :
    optAll l = some r ↔ List.Forall₂ (fun o a => o = some a) l r := by
  rw [Cart.optAll_eq_some, ← List.forall₂_eq_eq_eq, List.forall₂_map_right_iff]

/-! ### `all_variants` -/

/-- the `slots` of `Space.allVariants` -/
def slots (s : Seq) (mc : List Choice) : List (List (Nat × Seq)) :=
  mc.map (fun c => (variantsByDistance c s).map (fun v => (c.start, v)))

theorem mem_slots (s : Seq) (mc : List Choice) (combo : List (Nat × Seq)) :
    List.Forall₂ (· ∈ ·) combo (slots s mc) ↔ Assigns combo mc := by
  have e : (fun (m : Nat × Seq) (c : Choice) => m ∈ (variantsByDistance c s).map (fun v => (c.start, v))) =
      fun m c => m.1 = c.start ∧ m.2 ∈ c.variants := by
    funext m c
    simp only [List.mem_map, (variantsByDistance_spec c s).1.mem_iff, eq_iff_iff]
    exact ⟨by rintro ⟨v, hv, rfl⟩; exact ⟨rfl, hv⟩, fun h => ⟨m.2, h.2, by rw [← h.1]⟩⟩
  rw [slots, List.forall₂_map_right_iff, e, Assigns]

theorem slots_lengths (s : Seq) (mc : List Choice) :
    (slots s mc).map List.length = mc.map (·.variants.length) := by
  rw [slots, List.map_map]
  exact List.map_congr_left fun c _ => by simp [(variantsByDistance_spec c s).1.length_eq]

theorem slots_nodup (s : Seq) (mc : List Choice) (hnd : ∀ c ∈ mc, c.variants.Nodup) :
    ∀ l ∈ slots s mc, l.Nodup := by
  simp only [slots, List.forall_mem_map]
  exact fun c hc => (((variantsByDistance_spec c s).1.nodup_iff).2 (hnd c hc)).map
    (fun a b hab => by simpa using hab)

theorem slots_heads (s : Seq) (mc : List Choice) (hin : ∀ c ∈ mc, c.seg s ∈ c.variants) :
    List.Forall₂ (fun h l => l.head? = some h) (readOff mc s) (slots s mc) := by
  rw [slots, readOff, List.forall₂_map_left_iff, List.forall₂_map_right_iff, List.forall₂_same]
  exact fun c hc => by simp [List.head?_map, (variantsByDistance_spec c s).2 (hin c hc)]

theorem allVariants_eq (sp : Space) (s : Seq) :
    sp.allVariants s = .ok ((cartesian (slots s sp.multichoices)).map (applyMuts s)) := by
  simp only [allVariants, choicesSpan]
  cases hm : sp.multichoices with
  | nil => simp [slots, cartesian, applyMuts]
  | cons a l =>
    cases hl : (a :: l).getLast? with
    | none => simp at hl
    | some b => rfl

/-- **`all_variants`**: every combination of choices exactly once, starting with the current sequence when it is in
    the space, differing from it only inside the multi-variant choices -/
theorem allVariants_enumerates (sp : Space) (s : Seq) (vs : List Seq)
    (hwf : MCFits s.length sp.multichoices) (h : sp.allVariants s = .ok vs) :
    vs.length = (sp.multichoices.map (·.variants.length)).foldr (· * ·) 1 ∧ vs.Nodup ∧
    ((∀ c ∈ sp.multichoices, c.seg s ∈ c.variants) → vs.head? = some s) ∧
    ∀ t, t ∈ vs ↔ (t.length = s.length ∧ (∀ c ∈ sp.multichoices, c.seg t ∈ c.variants) ∧
      ∀ i, (∀ c ∈ sp.multichoices, ¬ (c.start ≤ i ∧ i < c.stop)) → t[i]? = s[i]?) := by
  rw [allVariants_eq, Except.ok.injEq] at h
  subst h
  have hcf := cFits_of_mcFits hwf
  refine ⟨?_, ?_, ?_, ?_⟩
  · rw [List.length_map, Cart.length_cartesian, slots_lengths]
  · apply List.Nodup.map_on
    · intro a ha b hb hab
      rw [Cart.mem_cartesian, mem_slots] at ha hb
      exact applyMuts_injective s _ hcf a b ha hb hab
    · exact Cart.nodup_cartesian _ (slots_nodup s _ (fun c hc => ((mcFits_iff.1 hwf).1 c hc).2.2.2))
  · intro hin
    rw [List.head?_map, Cart.head_cartesian _ _ (slots_heads s _ hin), Option.map_some,
      applyMuts_readOff s s _ hcf hin (fun _ _ => rfl)]
  · intro t
    simp only [List.mem_map, Cart.mem_cartesian, mem_slots]
    constructor
    · rintro ⟨combo, hc, rfl⟩
      obtain ⟨r1, r2, r3⟩ := applyMuts_readback s combo _ hcf hc
      refine ⟨r1, (assigns_readOff _ _).1 ?_, r3⟩
      rwa [r2]
    · rintro ⟨-, h2, h3⟩
      exact ⟨_, (assigns_readOff _ t).2 h2, applyMuts_readOff s t _ hcf h2 h3⟩

/-- the reported size is the product of the variant counts (the correspondence check compares
    `space_size = exp(min(100, Σ log nᵢ))` with it numerically) -/
theorem sizeProduct_eq (sp : Space) (h : sp.multichoices ≠ []) :
    sp.sizeProduct = (sp.multichoices.map (·.variants.length)).foldl (· * ·) 1 := by
  simp [sizeProduct, List.isEmpty_eq_false_iff.2 h]

/-! ### random mutations -/

theorem drawInt_spec {n i : Nat} {t t' : Tape} (h : drawInt n t = .ok (i, t')) : i < n ∧ t = i :: t' := by
  revert h
  fun_cases drawInt n t with
  | case1 => nofun
  | case2 x t hx =>
    rintro ⟨rfl, rfl⟩
    exact ⟨hx, rfl⟩
  | case3 => nofun

theorem randomVariant_spec {c : Choice} {s : Seq} {t t' : Tape} {v : Seq}
    (h : c.randomVariant s t = .ok (v, t')) :
    v ∈ c.variants ∧ v ≠ c.seg s ∧ ∃ x, t = x :: t' := by
  revert h
  fun_cases randomVariant c s t with
  | case1 => nofun
  | case2 cur vs i t1 hdraw w hw =>
    rintro ⟨rfl, rfl⟩
    have hmem := (sortSeqs_perm _).mem_iff.1 (List.mem_of_getElem? hw)
    rw [List.mem_filter, bne_iff_ne] at hmem
    exact ⟨hmem.1, hmem.2, i, (drawInt_spec hdraw).2⟩
  | case3 => nofun

theorem randomVariants_spec {cs : List Choice} {s : Seq} {t t' : Tape} {muts : List (Nat × Seq)}
    (h : randomVariants cs s t = .ok (muts, t')) :
    List.Forall₂ (fun m c => m.1 = c.start ∧ m.2 ∈ c.variants ∧ m.2 ≠ c.seg s) muts cs ∧
    t.length = t'.length + cs.length := by
  fun_induction randomVariants cs s t generalizing muts with
  | case1 =>
    obtain ⟨rfl, rfl⟩ := h
    exact ⟨.nil, rfl⟩
  | case2 => cases h
  | case3 => cases h
  | case4 c cs s t v t1 hv r t2 hr ih =>
    obtain ⟨rfl, rfl⟩ := h
    obtain ⟨h1, h2, x, rfl⟩ := randomVariant_spec hv
    obtain ⟨i1, i2⟩ := ih hr
    exact ⟨.cons ⟨rfl, h1, h2⟩ i1, congrArg (· + 1) i2⟩

theorem drawDistinct_spec {n k : Nat} {t t' : Tape} {xs : List Nat} (h : drawDistinct n k t = .ok (xs, t')) :
    xs.length = k ∧ (∀ x ∈ xs, x < n) ∧ xs.Nodup := by
  simp only [drawDistinct] at h
  split at h
  · rename_i hcond
    obtain ⟨rfl, -⟩ := h
    simp only [Bool.and_eq_true, beq_iff_eq, List.all_eq_true, decide_eq_true_eq] at hcond
    exact ⟨hcond.1.1, hcond.1.2, Merge.nodup_of_dedup_length _ (by rw [hcond.2, hcond.1.1])⟩
  · cases h

theorem filterMap_getElem?_of_nodup {α : Type} (l : List α) (hl : l.Nodup) (is : List Nat) (his : is.Nodup)
    (hlt : ∀ i ∈ is, i < l.length) :
    (is.filterMap (fun i => l[i]?)).Nodup ∧ (∀ c ∈ is.filterMap (fun i => l[i]?), c ∈ l) ∧
    (is.filterMap (fun i => l[i]?)).length = is.length := by
  refine ⟨?_, ?_, List.filterMap_length_eq_length.2 fun i hi => by
    simp only [List.getElem?_eq_getElem (hlt i hi), Option.isSome_some]⟩
  · apply List.Nodup.filterMap _ his
    intro a a' b hb hb'
    obtain ⟨ha, e1⟩ := List.getElem?_eq_some_iff.1 hb
    obtain ⟨ha', e2⟩ := List.getElem?_eq_some_iff.1 hb'
    exact (List.Nodup.getElem_inj_iff hl).1 (e1.trans e2.symm)
  · intro c hc
    obtain ⟨i, -, hi⟩ := List.mem_filterMap.1 hc
    exact List.mem_of_getElem? hi

theorem pickRandomMutations_spec {sp : Space} {n : Nat} {s : Seq} {t t' : Tape} {muts : List (Nat × Seq)}
    (hmcn : sp.multichoices.Nodup)
    (h : sp.pickRandomMutations n s t = .ok (muts, t')) :
    ∃ chosen : List Choice, chosen.Nodup ∧ (∀ c ∈ chosen, c ∈ sp.multichoices) ∧
      chosen.length = min sp.multichoices.length n ∧
      List.Forall₂ (fun m c => m.1 = c.start ∧ m.2 ∈ c.variants ∧ m.2 ≠ c.seg s) muts chosen := by
  revert h
  fun_cases pickRandomMutations sp n s t with
  | case1 => nofun
  | case2 mc k hk i t1 _ c hc =>
    -- `k = 1`: the one choice drawn
    intro h
    exact ⟨[c], List.nodup_singleton c, List.forall_mem_singleton.2 (List.mem_of_getElem? hc), (beq_iff_eq.1 hk).symm,
      (randomVariants_spec h).1⟩
  | case3 => nofun
  | case4 => nofun
  | case5 mc k _ is t1 hdraw =>
    -- `k` distinct indices drawn
    intro h
    obtain ⟨d1, d2, d3⟩ := drawDistinct_spec hdraw
    obtain ⟨p1, p2, p3⟩ := filterMap_getElem?_of_nodup sp.multichoices hmcn is d3 d2
    exact ⟨_, p1, p2, p3.trans d1, (randomVariants_spec h).1⟩

/-- **`apply_random_mutations(n, sequence)`** changes exactly `min(n, #multi-variant choices)` distinct choices, each to
    an allowed variant different from the current one, keeps the length, and touches nothing outside the chosen
    choices, for every valid tape -/
theorem applyRandomMutations_spec (sp : Space) (n : Nat) (s : Seq) (t t' : Tape) (r : Seq)
    (hfit : ChoicesFit s.length sp.multichoices)
    (h : sp.applyRandomMutations n s t = .ok (r, t')) :
    r.length = s.length ∧
    ∃ chosen : List Choice, chosen.Nodup ∧ (∀ c ∈ chosen, c ∈ sp.multichoices) ∧
      chosen.length = min sp.multichoices.length n ∧
      (∀ c ∈ chosen, c.seg r ∈ c.variants ∧ c.seg r ≠ c.seg s) ∧
      (∀ i, (∀ c ∈ chosen, ¬ (c.start ≤ i ∧ i < c.stop)) → r[i]? = s[i]?) := by
  simp only [applyRandomMutations] at h
  split at h
  · cases h
  · rename_i muts t1 hpick
    obtain ⟨rfl, rfl⟩ := h
    obtain ⟨chosen, hnd, hsub, hlen, hf2⟩ :=
      pickRandomMutations_spec (choicesFit_nodup hfit) hpick
    -- the chosen choices are pairwise disjoint, in the order they were drawn
    have hm : CFits s.length chosen :=
      ⟨fun c hc => by have := (choicesFit_iff.1 hfit).1 c (hsub c hc); exact ⟨this.1, Nat.le_of_lt this.2.1, this.2.2.1⟩,
       hnd.imp_of_mem (fun ha hb hne => choicesFit_disjoint hfit (hsub _ ha) (hsub _ hb) hne)⟩
    obtain ⟨r1, r2, r3⟩ := applyMuts_segs s muts chosen (fun c v => v ≠ c.seg s) hm hf2
    exact ⟨r1, chosen, hnd, hsub, hlen, r2, r3⟩

/-! ### `constrain_sequence` applies an assignment -/

/-- one step of the loop: whatever the branch, some variant `v` of `c` is written over its segment (the branch that
    writes nothing "writes" the segment already there) -/
theorem constrainLoop_cons {c : Choice} {cs : List Choice} {orig acc : Seq} {t t' : Tape} {r : Seq}
    (h3 : c.stop ≤ acc.length) (hagree : c.seg acc = c.seg orig)
    (h : constrainLoop (c :: cs) orig acc t = .ok (r, t')) :
    ∃ v t1, v ∈ c.variants ∧ (c.seg orig ∈ c.variants → v = c.seg orig) ∧
      constrainLoop cs orig (splice acc c.start v) t1 = .ok (r, t') := by
  rw [constrainLoop, pySlice_seg] at h
  split at h
  · cases h
  · rename_i v hv
    exact ⟨v, t, hv ▸ List.mem_singleton_self v, fun hm => (List.mem_singleton.1 (hv ▸ hm)).symm, h⟩
  · split at h
    · rename_i hcont
      refine ⟨c.seg orig, t, List.contains_iff_mem.1 hcont, fun _ => rfl, ?_⟩
      rwa [← hagree, splice_seg_id c acc h3]
    · rename_i hcont
      split at h
      · cases h
      · split at h
        · rename_i v hv
          exact ⟨v, _, (sortSeqs_perm _).mem_iff.1 (List.mem_of_getElem? hv),
            fun hm => absurd (List.contains_iff_mem.2 hm) hcont, h⟩
        · cases h

/-- the loop applies an assignment that keeps every segment of `orig` that is already a variant -/
theorem constrainLoop_assigns {n : Nat} {cs : List Choice} {orig acc : Seq} {t t' : Tape} {r : Seq}
    (hfit : ChoicesFit n cs) (hla : acc.length = n)
    (hagree : ∀ c ∈ cs, c.seg acc = c.seg orig)
    (h : constrainLoop cs orig acc t = .ok (r, t')) :
    ∃ combo, List.Forall₂ (fun m c => m.1 = c.start ∧ m.2 ∈ c.variants ∧
        (c.seg orig ∈ c.variants → m.2 = c.seg orig)) combo cs ∧ r = applyMuts acc combo := by
  induction cs generalizing acc t with
  | nil =>
    simp only [constrainLoop, Except.ok.injEq, Prod.mk.injEq] at h
    exact ⟨[], List.Forall₂.nil, h.1.symm⟩
  | cons c cs ih =>
    obtain ⟨h1, h2, h3, h4, h5, h6⟩ := hfit
    obtain ⟨v, t1, hv, hkeep, hrec⟩ := constrainLoop_cons (hla ▸ h1) (hagree c List.mem_cons_self) h
    have hsp : c.start + v.length = c.stop := by rw [h3 v hv, Nat.add_sub_cancel' (Nat.le_of_lt h2)]
    have hvfit : c.start + v.length ≤ acc.length := hsp ▸ hla ▸ h1
    obtain ⟨combo, hf, hr⟩ := ih h6 ((splice_length _ _ _ hvfit).trans hla)
      (fun d hd => (seg_splice_other d acc c.start v hvfit (Or.inl (hsp ▸ h5 d hd))).trans
        (hagree d (List.mem_cons_of_mem _ hd))) hrec
    exact ⟨(c.start, v) :: combo, List.Forall₂.cons ⟨rfl, hv, hkeep⟩ hf, hr⟩

theorem constrainLoop_spec {n : Nat} {cs : List Choice} {orig acc : Seq} {t t' : Tape} {r : Seq}
    (hfit : ChoicesFit n cs) (hla : acc.length = n)
    (hagree : ∀ c ∈ cs, c.seg acc = c.seg orig)
    (h : constrainLoop cs orig acc t = .ok (r, t')) :
    r.length = n ∧
    (∀ c ∈ cs, c.seg r ∈ c.variants ∧ (c.seg orig ∈ c.variants → c.seg r = c.seg orig)) ∧
    (∀ i, (∀ c ∈ cs, ¬ (c.start ≤ i ∧ i < c.stop)) → r[i]? = acc[i]?) := by
  obtain ⟨combo, hf, rfl⟩ := constrainLoop_assigns hfit hla hagree h
  have hm : CFits acc.length cs := hla ▸ cFits_of_mcFits (mcFits_of_choicesFit hfit)
  obtain ⟨r1, r2, r3⟩ := applyMuts_segs acc combo cs (fun c v => c.seg orig ∈ c.variants → v = c.seg orig) hm hf
  exact ⟨r1.trans hla, r2, r3⟩

theorem constrainLoop_noop (cs : List Choice) (s : Seq) (t : Tape)
    (hfit : ChoicesFit s.length cs) (hin : ∀ c ∈ cs, c.seg s ∈ c.variants) :
    constrainLoop cs s s t = .ok (s, t) := by
  induction cs with
  | nil => rfl
  | cons c cs ih =>
    obtain ⟨h1, h2, h3, h4, h5, h6⟩ := hfit
    have hc := hin c List.mem_cons_self
    have ih' := ih h6 (fun d hd => hin d (List.mem_cons_of_mem _ hd))
    rw [constrainLoop, pySlice_seg]
    split
    · rename_i hv
      exact absurd hc (hv ▸ List.not_mem_nil)
    · rename_i v hv
      rw [hv, List.mem_singleton] at hc
      rwa [← hc, splice_seg_id c s h1]
    · rwa [if_pos (List.contains_iff_mem.2 hc)]

/-! ### `choices_list`, `localized` -/

/-- membership in `choices_list`, in the shape that goes through the induction: whether `c` is emitted depends on
    `last`, and `c ∈ … ∨ last = some c` stays true when the head of the list becomes the new `last` -/
theorem mem_dedupConsecutive (l : List (Option Choice)) (last : Option Choice) (c : Choice) :
    (c ∈ dedupConsecutive l last ∨ last = some c) ↔ (some c ∈ l ∨ last = some c) := by
  fun_induction dedupConsecutive l last with
  | case1 last => simp
  | case2 rest last ih => simpa using ih
  | case3 d rest last hl ih =>
    -- `d` repeats `last`: nothing is emitted
    rw [ih, List.mem_cons, or_assoc]
    exact (or_iff_right_of_imp fun e => Or.inr ((beq_iff_eq.1 hl).trans e.symm)).symm
  | case4 d rest last hl ih =>
    -- `d` is emitted and becomes `last`
    refine or_congr_left ?_
    rw [List.mem_cons, List.mem_cons, or_comm, or_comm (a := some c = _), eq_comm, eq_comm (a := some c)]
    simpa using ih

theorem mem_choicesList (sp : Space) (c : Choice) : c ∈ sp.choicesList ↔ some c ∈ sp.index := by
  simpa [choicesList] using mem_dedupConsecutive sp.index none c

theorem mem_choicesList_iff_getElem? (sp : Space) (c : Choice) :
    c ∈ sp.choicesList ↔ ∃ i : Nat, sp.index[i]? = some (some c) := by
  rw [mem_choicesList, List.mem_iff_getElem?]

theorem mem_localized_choicesList (sp : Space) (a b : Int) (c : Choice) :
    c ∈ (sp.localized a b).choicesList ↔ some c ∈ pySlice sp.index a b := by
  simp [mem_choicesList, Space.localized, Space.ofIndex]

-- `hab`: the statement carries it, the proof does not need it
set_option linter.unusedVariables false in
/-- **`localized(location)`** keeps exactly the choices that govern some position of the location
    (`choices_index[start:end]`); it pads the left with `start` empty positions (`localized_padding`) -/
theorem localized_choices (sp : Space) (a b : Nat) (hab : a ≤ b) (c : Choice) :
    c ∈ (sp.localized a b).choicesList ↔ ∃ i, a ≤ i ∧ i < b ∧ sp.index[i]? = some (some c) := by
  rw [mem_localized_choicesList, pySlice_natCast, mem_win_sub_iff]

/-- whatever the bounds, a localization only holds choices of the space -/
theorem localized_multi_sub (sp : Space) (a b : Int) (c : Choice) (h : c ∈ (sp.localized a b).multichoices) :
    c ∈ sp.choicesList :=
  (mem_choicesList sp c).2
    (mem_of_mem_pySlice ((mem_localized_choicesList sp a b c).1 (mem_multichoices.1 h).1))

theorem localized_padding (sp : Space) (a b : Nat) :
    (sp.localized a b).index.take a = List.replicate a none := by
  simp [Space.localized, Space.ofIndex]

/-! ### wrappers for the public operations -/

/-- `constrain_sequence`: same length, every choice's segment holds one of its variants, compatible segments are kept,
    positions outside all choices are untouched -/
theorem constrainSequence_spec (sp : Space) (s : Seq) (t t' : Tape) (r : Seq)
    (hfit : ChoicesFit s.length sp.choicesList) (h : sp.constrainSequence s t = .ok (r, t')) :
    r.length = s.length ∧
    (∀ c ∈ sp.choicesList, c.seg r ∈ c.variants ∧ (c.seg s ∈ c.variants → c.seg r = c.seg s)) ∧
    (∀ i, (∀ c ∈ sp.choicesList, ¬ (c.start ≤ i ∧ i < c.stop)) → r[i]? = s[i]?) :=
  constrainLoop_spec hfit rfl (fun _ _ => rfl) h

/-- `constrain_sequence` is idempotent and the second call draws no random number -/
theorem constrainSequence_idem (sp : Space) (s : Seq) (t t' t2 : Tape) (r : Seq)
    (hfit : ChoicesFit s.length sp.choicesList) (h : sp.constrainSequence s t = .ok (r, t')) :
    sp.constrainSequence r t2 = .ok (r, t2) := by
  obtain ⟨h1, h2, _⟩ := constrainSequence_spec sp s t t' r hfit h
  exact constrainLoop_noop sp.choicesList r t2 (by rw [h1]; exact hfit) (fun c hc => (h2 c hc).1)

/-- a sequence already compatible with the space is returned unchanged, drawing nothing -/
theorem constrainSequence_noop (sp : Space) (s : Seq) (t : Tape)
    (hfit : ChoicesFit s.length sp.choicesList) (hin : ∀ c ∈ sp.choicesList, c.seg s ∈ c.variants) :
    sp.constrainSequence s t = .ok (s, t) :=
  constrainLoop_noop sp.choicesList s t hfit hin

/-! ### non-vacuity -/
def exSpace : Space := Space.ofIndex
  [some ⟨0, 2, ["AT".toList, "TG".toList], false⟩, some ⟨0, 2, ["AT".toList, "TG".toList], false⟩,
   some ⟨2, 3, ["A".toList], false⟩, some ⟨3, 4, ["C".toList, "G".toList, "T".toList], false⟩]
example : ChoicesFit 4 exSpace.choicesList := by
  simp only [exSpace, String.reduceToList]
  exact choicesFit_iff.2 (by decide)
#guard exSpace.allVariants "ATAC".toList = .ok ["ATAC".toList, "ATAG".toList, "ATAT".toList, "TGAC".toList, "TGAG".toList, "TGAT".toList]
#guard exSpace.applyRandomMutations 2 "ATAC".toList [1, 0, 0, 0] = .ok ("TGAG".toList, [])
#guard exSpace.constrainSequence "GGGG".toList [1] = .ok ("TGAG".toList, [])

end Dna.C15
