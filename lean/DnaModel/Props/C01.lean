/-
C01 — resolve_constraints returns only with every constraint satisfied.
Theorems about Model/Solver.lean for arbitrary specification objects (SpecOps), settings, tapes.
-/
import DnaModel.Proofs.SolverPure
namespace Dna.C01
open Dna Solver
variable {σ K : Type} [BEq σ] [Score K]

/-- existential in the call index because `evaluate` may be impure: the witness is the call the solver made -/
def PassesAt (ops : SpecOps σ K) (c : σ) (s : Seq) : Prop :=
  ∃ k e, ops.evaluate c s k = .ok e ∧ e.passes = true

theorem finalCheck_ok (ops : SpecOps σ K) (s : Seq) (all cs : List σ) (st st' : St σ K)
    (h : finalCheck ops s all cs st = (.ok (), st')) : ∀ c ∈ cs, PassesAt ops c s := by
  revert h
  fun_induction finalCheck ops s all cs st with
  | case1 => exact fun _ _ hc => nomatch hc
  | case2 | case4 | case5 => nofun
  | case3 =>
    rename_i hev hp ih
    rintro h d (_ | ⟨_, hd⟩)
    · exact ⟨_, _, evalAt_ok hev, hp⟩
    · exact ih h d hd

/-- the final check fails only with `NoSolutionError` or an exception thrown by a specification -/
theorem finalCheck_err (ops : SpecOps σ K) (s : Seq) (all cs : List σ) (st st' : St σ K) (e : Err)
    (h : finalCheck ops s all cs st = (.error e, st')) : (∃ w, e = .noSolution w) ∨ (∃ n, e = .fault n) := by
  revert h
  fun_induction finalCheck ops s all cs st with
  | case1 => nofun
  | case2 =>
    rename_i hev
    rintro ⟨⟩
    exact .inr (evalAt_err hev)
  | case3 =>
    rename_i ih
    exact ih
  | case4 =>
    rename_i hall
    rintro ⟨⟩
    exact .inr (evaluateAll_err hall)
  | case5 =>
    rintro ⟨⟩
    exact .inl ⟨_, rfl⟩

/-- **C01, main clause.**  If `resolve_constraints()` returns normally on a problem with at least one constraint that
    is not enforced by the mutation space, then every constraint — including those presumed enforced — was evaluated
    on the final sequence and passed.  For arbitrary specifications (wrong `localized`, lying heuristics, impure
    code), all settings and tapes: it rests on the final check only.  About the default `finalChk := true`
    (`resolve_constraints(final_check=True)`); false for `finalChk := false`. -/
theorem resolve_ok_all_pass (ops : SpecOps σ K) (sett : Settings) (F : Frame σ) (s s' : Seq) (st st' : St σ K)
    (hne : (F.constraints.filter (fun c => !ops.enforced c)).isEmpty = false)
    (h : resolveConstraints ops sett F s st = (.ok (), s', st')) :
    ∀ c ∈ F.constraints, PassesAt ops c s' := by
  simp only [resolveConstraints, hne, Bool.false_eq_true, if_false, if_true] at h
  split at h
  · cases h
  · rename_i s1 st1 hre
    simp only [Prod.mk.injEq] at h
    obtain ⟨h1, rfl, h2⟩ := h
    exact finalCheck_ok ops s1 F.constraints F.constraints st1 st' (Prod.ext h1 h2)

/-- every constraint enforced by the mutation space: returned untouched, no evaluation, no random draw -/
theorem resolve_all_enforced (ops : SpecOps σ K) (sett : Settings) (F : Frame σ) (s : Seq) (st : St σ K)
    (hall : (F.constraints.filter (fun c => !ops.enforced c)).isEmpty = true) :
    resolveConstraints ops sett F s st = (.ok (), s, st) := by
  simp [resolveConstraints, hall]

/-- without the side condition of `resolve_ok_all_pass`: when no constraint is left to resolve nothing is evaluated,
    and the conclusion rests on the soundness of the nucleotide restrictions, the hypothesis `hsound` (C04 proves the
    matching facts about the built-in model — `enforceChoice_sound`, `avoidChanges_restrict_iff`,
    `enforceSequence_restrict_iff` — with `C08.PassesB` / `C10.passesQ`; no lemma carries them over to `PassesAt`) -/
theorem resolve_ok_all_pass_enforced (ops : SpecOps σ K) (sett : Settings) (F : Frame σ) (s s' : Seq) (st st' : St σ K)
    (hsound : ∀ c ∈ F.constraints, ops.enforced c = true → PassesAt ops c s)
    (h : resolveConstraints ops sett F s st = (.ok (), s', st')) :
    ∀ c ∈ F.constraints, PassesAt ops c s' := by
  cases hall : (F.constraints.filter (fun c => !ops.enforced c)).isEmpty with
  | false => exact resolve_ok_all_pass ops sett F s s' st st' hall h
  | true =>
    rw [resolve_all_enforced ops sett F s st hall] at h
    cases h
    intro c hc
    exact hsound c hc (by simpa using List.filter_eq_nil_iff.1 (List.isEmpty_iff.1 hall) c hc)

end Dna.C01
