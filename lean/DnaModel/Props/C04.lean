/-
C04 — the mutation space is exactly the set of sequences the hard constraints allow.
The construction: `from_optimization_problem_exact` (the invariant over the fold of restrictions is in Proofs/Fold), its
two steps `mergeWith_exact` and `extractVaryingRegion_exact`, the well-formedness of the result
(`from_optimization_problem_fits`), `unsolvable_iff_empty`, the constrained initial sequence lying in the space.
The restrictions themselves: for AvoidChanges (regions, no budget) and EnforceSequence (forward / unstranded) a sequence
satisfies them iff `evaluate` passes (`*_restrict_iff`); for EnforceChoice the restriction is computed
(`enforceChoice_restrict`) and satisfying it implies passing (`enforceChoice_sound`).
PARTIAL: for the other classes (EnforceTranslation, reverse-strand EnforceSequence, EnforceChanges, AvoidRareCodons)
restriction ⇔ documented predicate is left to the correspondence and the 4^L brute-force oracle.
-/
import DnaModel.Model.Builtin
import DnaModel.Proofs.Merge
import DnaModel.Proofs.Split
import DnaModel.Proofs.Fold
import DnaModel.Props.C15
import DnaModel.Props.C10
import DnaModel.Proofs.BuiltinEval
namespace Dna.C04
open Dna BSpec C15

section MergeExact
open Choice Merge
-- the statement carries `h2` and `h3` (`self` ends inside the tile); the proof does not need them
set_option linter.unusedVariables false in
/-- **`MutationChoice.merge_with` is exact** (the step that combines a new restriction with the choices already in
    place): over underlying choices that tile a span around the new choice, the merged choice spans the tile and its
    variants are exactly the words that satisfy the new choice and every underlying one -/
theorem mergeWith_exact (self : Choice) (first : Choice) (rest : List Choice)
    (hc : Contig first.start (first :: rest)) (h1 : first.start ≤ self.start) (h2 : self.start ≤ self.stop)
    (h3 : self.stop ≤ stopOf first.start (first :: rest))
    (hov : ∀ o ∈ first :: rest, ∀ v ∈ o.variants, v.length = o.stop - o.start) :
    ∃ m, self.mergeWith (first :: rest) = some m ∧ m.start = first.start ∧ m.stop = stopOf first.start (first :: rest) ∧
      ∀ sq, sq ∈ m.variants ↔
        sq.length = m.stop - m.start ∧ sl sq (self.start - m.start) (self.stop - self.start) ∈ self.variants ∧
        ∀ o ∈ first :: rest, sl sq (o.start - m.start) (o.stop - o.start) ∈ o.variants :=
  ⟨_, mergeWith_contig self first rest hc, rfl, rfl,
    fun sq => mergeCore_exact self first.start (first :: rest) sq hc h1 hov⟩

end MergeExact

/-- **`extract_varying_region` keeps the language** (the step that splits a merged choice into a constant head, a
    varying core and a constant tail before the write-back), and the pieces tile the choice's segment -/
theorem extractVaryingRegion_exact (c : Choice) (t : Seq)
    (hlen : ∀ v ∈ c.variants, v.length = c.stop - c.start) (hle : c.start ≤ c.stop) :
    (c.seg t ∈ c.variants ↔ ∀ p ∈ c.extractVaryingRegion, p.seg t ∈ p.variants) ∧
    Merge.Contig c.start c.extractVaryingRegion ∧ Merge.stopOf c.start c.extractVaryingRegion = c.stop ∧
    ∀ p ∈ c.extractVaryingRegion, ∀ v ∈ p.variants, v.length = p.stop - p.start :=
  ⟨Split.extractVaryingRegion_language c t hlen, Split.extractVaryingRegion_tiles c hlen hle⟩

open Fold

/-- the hard restrictions collected from the constraints allow the word `t` -/
abbrev Allowed := Fold.Allowed

/-- the form in which the `*_restrict_iff` theorems below speak of the restrictions of one constraint -/
theorem allowed_iff_win (rs : List Space.Restriction) (t : Seq) :
    Allowed rs t ↔ ∀ r ∈ rs, win t r.start (r.stop - r.start) ∈ r.variants :=
  Iff.rfl

theorem accepts_iff_choicesList (sp : Space) (t : Seq) :
    Accepts sp.index t ↔ ∀ c ∈ sp.choicesList, c.seg t ∈ c.variants := by
  simp only [Accepts, mem_choicesList_iff_getElem?, forall_exists_index]
  exact forall_comm

/-- **C04, the whole construction**: `MutationSpace.from_optimization_problem` (any-nucleotide index, restrictions
    sorted by length, merge with the choices already in place, split at the varying region, write-back) builds a space
    whose choices accept a DNA word of the sequence's length *iff* the word satisfies every restriction, for every
    number, order and overlap pattern of restrictions that lie inside the sequence -/
theorem from_optimization_problem_exact (s : Seq) (rs : List Space.Restriction) (sp : Space)
    (hrs : ∀ r ∈ rs, RestrOK s.length r) (h : Space.fromRestrictions s rs = .ok sp) :
    ∀ t : Seq, t.length = s.length → (∀ ch ∈ t, ch ∈ Fold.DNA) →
      ((∀ c ∈ sp.choicesList, c.seg t ∈ c.variants) ↔ Allowed rs t) := by
  obtain ⟨_, _, _, _, hacc⟩ := fromRestrictions_exact s rs sp hrs h
  intro t ht hdna
  rw [← accepts_iff_choicesList]
  exact hacc t ht hdna

theorem from_optimization_problem_tiles (s : Seq) (rs : List Space.Restriction) (sp : Space)
    (hrs : ∀ r ∈ rs, RestrOK s.length r) (h : Space.fromRestrictions s rs = .ok sp) :
    sp.index.length = s.length ∧ Blocks sp.index ∧ Full sp.index ∧ VarsNodup sp.index := by
  obtain ⟨h1, h2, h3, h4, _⟩ := fromRestrictions_exact s rs sp hrs h
  exact ⟨h1, h2, h3, h4⟩

theorem choicesFit_of_tiles (n a : Nat) (cl : List Choice) (hc : Merge.Contig a cl) (hs : Merge.stopOf a cl ≤ n)
    (hp : ∀ c ∈ cl, c.start < c.stop ∧ (∀ v ∈ c.variants, v.length = c.stop - c.start) ∧ c.variants.Nodup) :
    ChoicesFit n cl := by
  rw [choicesFit_iff]
  exact ⟨fun c hcm => ⟨Nat.le_trans (Merge.contig_mem hc hcm).2.2 hs, hp c hcm⟩,
    Merge.contig_pairwise hc⟩

/-- **the space built by `from_optimization_problem` is well-formed**: its choices tile the sequence in order, each a
    non-empty segment whose variants are pairwise distinct words of the segment's length.  This discharges `ChoicesFit`,
    the hypothesis of `C15.constrainSequence_spec`, of `SpaceWF.fit` (C12) and, through `C15.multichoices_choicesFit`, of
    the C15 theorems on random mutations and `all_variants`, for every space built from non-empty restrictions inside
    the sequence (`RestrOK`; a restriction on an empty segment is not covered) -/
theorem from_optimization_problem_fits (s : Seq) (rs : List Space.Restriction) (sp : Space)
    (hrs : ∀ r ∈ rs, RestrOK s.length r) (h : Space.fromRestrictions s rs = .ok sp) :
    ChoicesFit s.length sp.choicesList ∧ Merge.Contig 0 sp.choicesList ∧ Merge.stopOf 0 sp.choicesList = s.length := by
  obtain ⟨hl, hB, hF, hN, _⟩ := fromRestrictions_exact s rs sp hrs h
  obtain ⟨t1, t2, t3⟩ := choicesList_tiles sp hB hF
  refine ⟨choicesFit_of_tiles s.length 0 _ t1 (Nat.le_of_eq (t2.trans hl)) ?_, t1, t2.trans hl⟩
  intro c hc
  obtain ⟨i, hi⟩ := (mem_choicesList_iff_getElem? sp c).1 hc
  exact ⟨(t3 c hc).1, (t3 c hc).2.2, hN i c hi⟩

/-! non-vacuity of `RestrOK` -/
example : RestrOK 6 ⟨1, 4, [['A', 'T', 'G'], ['A', 'C', 'G']]⟩ := by
  unfold RestrOK
  decide

/- no closed example of `h : fromRestrictions s rs = .ok sp`: the model's `mergeSort` is by well-founded recursion and
   does not reduce in the kernel, so `decide` cannot check one; the correspondence check runs this function
   (`space.build` requests) on generated restriction sets, overlapping ones included, against the implementation. -/

/-- the assignments of one variant to every choice -/
def assignments (cl : List Choice) : List (List (Nat × Seq)) :=
  Choice.cartesian (cl.map (fun c => c.variants.map (fun v => (c.start, v))))

/-- **unsolvable iff empty**: the construction reports an unsolvable segment (a choice without variants) exactly when
    no assignment exists -/
theorem unsolvable_iff_empty (cl : List Choice) :
    (∃ c ∈ cl, c.variants = []) ↔ assignments cl = [] := by
  simp only [assignments, Cart.cartesian_eq_nil, List.mem_map, List.map_eq_nil_iff]

theorem unsolvable_space_iff (sp : Space) :
    sp.unsolvable ≠ [] ↔ assignments sp.choicesList = [] := by
  rw [← unsolvable_iff_empty]
  simp only [Space.unsolvable, ne_eq, List.map_eq_nil_iff, List.filter_eq_nil_iff, not_forall, beq_iff_eq,
    List.length_eq_zero_iff, not_not, exists_prop]

/-- **the problem's initial sequence always lies in the space** (when the space is solvable): what
    `constrain_sequence` returns holds an allowed variant in every choice, for every random tape -/
theorem initial_sequence_in_space (sp : Space) (s : Seq) (t t' : Tape) (r : Seq)
    (hfit : ChoicesFit s.length sp.choicesList) (h : sp.constrainSequence s t = .ok (r, t')) :
    r.length = s.length ∧ ∀ c ∈ sp.choicesList, c.seg r ∈ c.variants := by
  obtain ⟨h1, h2, _⟩ := constrainSequence_spec sp s t t' r hfit h
  exact ⟨h1, fun c hc => (h2 c hc).1⟩

/-- the same for the constructed space, with no well-formedness hypothesis left -/
theorem initial_sequence_in_constructed_space (s : Seq) (rs : List Space.Restriction) (sp : Space) (t t' : Tape) (r : Seq)
    (hrs : ∀ r ∈ rs, RestrOK s.length r) (h : Space.fromRestrictions s rs = .ok sp)
    (hc : sp.constrainSequence s t = .ok (r, t')) :
    r.length = s.length ∧ ∀ c ∈ sp.choicesList, c.seg r ∈ c.variants :=
  initial_sequence_in_space sp s t t' r (from_optimization_problem_fits s rs sp hrs h).1 hc

/-! ### the restrictions of the built-in classes -/

theorem enforceChoice_restrict (choices : List Seq) (a b : Nat) (s : Seq) :
    restrict (K := Rat) (.enforceChoice choices ⟨a, b, 1⟩) s = some [⟨a, b, dedup choices⟩] :=
  rfl

/-- a sequence whose segment is one of the restriction's variants passes `EnforceChoice.evaluate`: the autopass of
    this enforced constraint is justified -/
theorem enforceChoice_sound (choices : List Seq) (a b : Nat) (s sub : Seq)
    (hsub : (⟨a, b, 1⟩ : Loc).extract s = some sub) (hin : sub ∈ dedup choices) :
    ∃ e, evaluate (K := Rat) (.enforceChoice choices ⟨a, b, 1⟩) s = some e ∧ C10.passesQ e :=
  ⟨_, rfl, (C10.enforceChoice_passes_iff choices ⟨a, b, 1⟩ s _ sub hsub rfl).2 ((Merge.mem_dedup choices sub).1 hin)⟩

/-- AvoidChanges (location, no allowance): the original segment, on either strand -/
theorem avoidChanges_restrict_loc (target : Seq) (a b : Nat) (st : Int) (s : Seq) :
    restrict (K := Rat) (.avoidChanges 0 target (.loc ⟨a, b, st⟩)) s = some [⟨a, b, [pySlice s a b]⟩] :=
  rfl

theorem avoidChanges_restrict (target : Seq) (a b : Nat) (s : Seq) :
    restrict (K := Rat) (.avoidChanges 0 target (.loc ⟨a, b, 1⟩)) s = some [⟨a, b, [pySlice s a b]⟩] :=
  avoidChanges_restrict_loc target a b 1 s

/-- **AvoidChanges (no budget, forward / unstranded region)**: a sequence satisfies the restriction the constraint
    hands to the mutation space (built on the construction-time sequence `s0`) **iff** the constraint initialised on
    `s0` passes on it -/
theorem avoidChanges_restrict_iff (a b : Nat) (st : Int) (hst : st ≠ -1) (s0 t : Seq) (hab : a ≤ b)
    (hb0 : b ≤ s0.length) (hb : b ≤ t.length) (tg : Seq) (rs : List Space.Restriction)
    (hr : BSpec.restrict (K := Rat) (.avoidChanges 0 tg (.loc ⟨a, b, st⟩)) s0 = some rs) :
    (∀ r ∈ rs, win t r.start (r.stop - r.start) ∈ r.variants) ↔
      C08.PassesB (.avoidChanges 0 (win s0 a (b - a)) (.loc ⟨a, b, st⟩)) t := by
  have hlen : (win s0 a (b - a)).length = b - a := length_win_of_le s0 (by rwa [Nat.add_sub_cancel' hab])
  rw [C08.avoidChanges_passes_iff (win s0 a (b - a)) a b st hst t hab hb hlen]
  rw [avoidChanges_restrict_loc, Option.some.injEq] at hr
  rw [← hr]
  simp only [List.mem_singleton, forall_eq, pySlice_natCast s0 a b]

/-- `restrict_nucleotides` of EnforceSequence (forward / unstranded): one restriction per position, with the singletons
    of the nucleotides of that position's IUPAC letter -/
theorem enforceSequence_restrict (sq : Seq) (a b : Nat) (st : Int) (hst : st ≠ -1) (s0 : Seq) (rs : List Space.Restriction)
    (hr : BSpec.restrict (K := Rat) (.enforceSequence sq ⟨a, b, st⟩) s0 = some rs) :
    rs.length = b - a ∧ ∀ k (hk : k < rs.length), ∃ letter set, sq[k]? = some letter ∧ lookup letter Gen.iupac = some set ∧
      rs[k] = ⟨a + k, a + k + 1, set.map (fun n => [n])⟩ := by
  unfold BSpec.restrict at hr
  simp only [beq_eq_false_iff_ne.2 hst, Bool.false_eq_true, if_false, Int.toNat_sub, Nat.add_sub_cancel_left,
    ← Int.natCast_add, Int.toNat_natCast, Cart.optAll_map_range] at hr
  obtain ⟨hl, hall⟩ := hr
  refine ⟨hl, fun k hk => ?_⟩
  have h1 := hall k (hl ▸ hk)
  rw [List.getElem?_eq_getElem hk] at h1
  split at h1
  · rename_i letter hq
    obtain ⟨set, hlk, e⟩ := Option.map_eq_some_iff.1 h1
    exact ⟨letter, set, hq, hlk, e.symm⟩
  · cases h1

/-- **EnforceSequence (forward / unstranded)**: a sequence satisfies every nucleotide restriction the constraint hands
    to the mutation space **iff** the constraint's own `evaluate` passes on it, i.e. iff every position holds a
    nucleotide of its IUPAC letter: "enforced by nucleotide restrictions" is sound and exact -/
theorem enforceSequence_restrict_iff (sq : Seq) (a b : Nat) (st : Int) (hst : st ≠ -1) (s0 t : Seq) (hab : a ≤ b)
    (hb : b ≤ t.length) (hlen : b - a ≤ sq.length) (rs : List Space.Restriction)
    (hr : BSpec.restrict (K := Rat) (.enforceSequence sq ⟨a, b, st⟩) s0 = some rs) :
    (∀ r ∈ rs, win t r.start (r.stop - r.start) ∈ r.variants) ↔ C08.PassesB (.enforceSequence sq ⟨a, b, st⟩) t := by
  obtain ⟨hl, hkth⟩ := enforceSequence_restrict sq a b st hst s0 rs hr
  rw [C08.enforceSequence_passes_iff sq a b st hst t hab hb, and_iff_right hlen, ← hl, List.forall_mem_iff_getElem]
  -- position by position: the `k`-th restriction allows `t` iff the `k`-th check passes
  refine forall₂_congr fun k hk => ?_
  obtain ⟨letter, set, hq, hlk, hri⟩ := hkth k hk
  simp only [hri, C08.SeqOk, hq, Option.some.injEq, getElem?_win_of_lt t hk, Nat.add_sub_cancel_left, List.mem_map,
    List.contains_iff_mem, eq_comm (a := [_]), win_one_eq_singleton]
  constructor
  · rintro ⟨n, hn, e⟩
    exact ⟨n, letter, set, e, rfl, hlk, hn⟩
  · rintro ⟨n, _, set', e, rfl, hlk', hn⟩
    exact ⟨n, Option.some.inj (hlk.symm.trans hlk') ▸ hn, e⟩
end Dna.C04
