/-
C10 — built-in specifications evaluate to their documented meaning.
Per-class statements over the rationals; where the implementation's algorithm and the documented definition nearly
coincide the theorem is short and the weight is on the correspondence + the independent oracle (harness/oracle_doc.py).
-/
import DnaModel.Model.Builtin
import DnaModel.Proofs.Slice
import DnaModel.Proofs.ScoreRat
namespace Dna.C10
open Dna BSpec

def passesQ (e : BEval Rat) : Prop := 0 ≤ e.score

/-! ### AvoidPattern: score = -(number of occurrences), passes iff there is none -/

theorem avoidPattern_eval (pat : Pattern) (loc : Loc) (s : Seq) :
    evaluate (K := Rat) (.avoidPattern pat loc) s =
      (pat.findMatches s loc).map (fun ms => ⟨NumK.ofInt (-(ms.length : Int)), some ms⟩) := rfl

theorem avoidPattern_passes_iff (pat : Pattern) (loc : Loc) (s : Seq) (e : BEval Rat)
    (h : evaluate (.avoidPattern pat loc) s = some e) :
    passesQ e ↔ pat.findMatches s loc = some [] := by
  obtain ⟨ms, hm, rfl⟩ := Option.map_eq_some_iff.1 (avoidPattern_eval pat loc s ▸ h)
  simp only [hm, passesQ, Option.some.injEq]
  rw [NumK.ofInt_neg_nonneg_iff]
  exact List.length_eq_zero_iff

/-- breach locations of AvoidPattern are the occurrences themselves -/
theorem avoidPattern_locations (pat : Pattern) (loc : Loc) (s : Seq) (e : BEval Rat)
    (h : evaluate (.avoidPattern pat loc) s = some e) : e.locs = pat.findMatches s loc := by
  obtain ⟨ms, hm, rfl⟩ := Option.map_eq_some_iff.1 (avoidPattern_eval pat loc s ▸ h)
  exact hm.symm

/-! ### EnforcePatternOccurence: distance to the wanted count -/

theorem occurence_eval (pat : Pattern) (occ : Int) (loc : Loc) (s : Seq) :
    evaluate (K := Rat) (.patternOccurence pat occ loc) s =
      (pat.findMatches s loc).map (fun ms =>
        ⟨NumK.neg (NumK.abs (((ms.length : Int) - occ : Int) : Rat)), some [loc]⟩) := rfl

/-! ### EnforceChoice: membership in the list -/

/-- the verdict 0 / -1 is on membership; a failure is located at the whole region -/
theorem enforceChoice_eval (choices : List Seq) (loc : Loc) (s sub : Seq) (hsub : loc.extract s = some sub) :
    evaluate (K := Rat) (.enforceChoice choices loc) s =
      some ⟨NumK.ofInt (if sub ∈ choices then 0 else -1), some (if sub ∈ choices then [] else [loc])⟩ := by
  simp only [evaluate, hsub, Option.map_some, List.contains_iff_mem]
  split <;> rfl

theorem enforceChoice_passes_iff (choices : List Seq) (loc : Loc) (s : Seq) (e : BEval Rat) (sub : Seq)
    (hsub : loc.extract s = some sub)
    (h : evaluate (.enforceChoice choices loc) s = some e) :
    passesQ e ↔ sub ∈ choices := by
  obtain rfl := Option.some.inj ((enforceChoice_eval choices loc s sub hsub).symm.trans h)
  exact NumK.ofInt_verdict_nonneg_iff _

theorem enforceChoice_fail_location (choices : List Seq) (loc : Loc) (s : Seq) (e : BEval Rat) (sub : Seq)
    (hsub : loc.extract s = some sub) (h : evaluate (.enforceChoice choices loc) s = some e)
    (hf : ¬ passesQ e) : e.locs = some [loc] := by
  obtain rfl := Option.some.inj ((enforceChoice_eval choices loc s sub hsub).symm.trans h)
  rw [passesQ, NumK.ofInt_verdict_nonneg_iff] at hf
  simp only [if_neg hf]

/-! ### SequenceLengthBounds -/

theorem lengthBounds_passes_iff (minLen : Int) (maxLen : Option Int) (s : Seq) (e : BEval Rat)
    (h : evaluate (.lengthBounds minLen maxLen) s = some e) :
    passesQ e ↔ (minLen ≤ (s.length : Int) ∧ ∀ m, maxLen = some m → (s.length : Int) ≤ m) := by
  obtain rfl := Option.some.inj h
  rw [passesQ, NumK.ofInt_verdict_nonneg_iff]
  cases maxLen <;> simp

/-! ### AvoidChanges: allowance minus the number of edited positions (location form) -/

theorem length_trueIndices (d : List Bool) :
    ((List.range d.length).filter (fun i => d[i]? == some true)).length = (d.filter id).length := by
  have : (fun i : Nat => d[i]? == some true) = fun i : Nat => d[i]?.any id := by
    funext i
    cases d[i]? with
    | none => rfl
    | some b => cases b <;> rfl
  rw [this, ← countP_eq_range, List.countP_eq_length_filter]

/-- `AvoidChanges.evaluate` does not raise when the sub-sequence has the target's length -/
theorem avoidChanges_eval (maxEdits : Rat) (target : Seq) (l : Loc) (s sub : Seq)
    (hsub : l.extract s = some sub) (hlen : sub.length = target.length) :
    ∃ locs, evaluate (.avoidChanges maxEdits target (.loc l)) s =
      some ⟨maxEdits - ((diffCount sub target : Nat) : Int), locs⟩ := by
  have : (sub.length != target.length) = false := by simp [hlen]
  simp only [evaluate, scopeExtract, hsub, this, Bool.false_eq_true, if_false, NumK.sub_rat, NumK.ofInt_rat, length_trueIndices]
  exact ⟨_, rfl⟩

theorem avoidChanges_score (maxEdits : Rat) (target : Seq) (l : Loc) (s sub : Seq) (e : BEval Rat)
    (hsub : l.extract s = some sub) (hlen : sub.length = target.length)
    (h : evaluate (.avoidChanges maxEdits target (.loc l)) s = some e) :
    e.score = maxEdits - ((diffCount sub target : Nat) : Int) := by
  obtain ⟨locs, he⟩ := avoidChanges_eval maxEdits target l s sub hsub hlen
  rw [he, Option.some.injEq] at h
  rw [← h]

end Dna.C10
