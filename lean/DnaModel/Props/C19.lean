/-
C19 — sequence utilities obey their algebraic laws.
Theorems about Model/Seq.lean and the generated tables (Gen/Tables.lean).
-/
import DnaModel.Model.Seq
import DnaModel.Proofs.Slice

namespace Dna.C19
open Dna

/-! ### reverse complement -/

def iupacDna : List Char := ['A','C','G','T','W','S','M','K','R','Y','B','D','H','V','N']
/-- the characters `complement` accepts: the keys of the CSV table -/
def inCsv (c : Char) : Bool := (lookup c Gen.complementsCsv).isSome

theorem compChar_involutive_table : ∀ c ∈ iupacDna, compChar (compChar c) = c := by decide
theorem compChar_closed : ∀ c ∈ iupacDna, compChar c ∈ iupacDna := by decide
theorem iupac_in_csv : ∀ c ∈ iupacDna, inCsv c = true := by decide
theorem csv_bio_agree : ∀ p ∈ Gen.complementsCsv, (lookup p.1 Gen.bioComplement).getD p.1 = p.2 := by decide
theorem csv_keys_unique : (Gen.complementsCsv.map (·.1)).Nodup := by decide

theorem rc_involutive (s : Seq) (h : ∀ c ∈ s, c ∈ iupacDna) : rc (rc s) = s := by
  rw [rc, rc, List.map_reverse, List.reverse_reverse, List.map_map]
  exact (List.map_congr_left fun c hc => compChar_involutive_table c (h c hc)).trans (List.map_id s)

theorem rc_length (s : Seq) : (rc s).length = s.length := by simp [rc]

theorem rc_mem_iupac (s : Seq) (h : ∀ c ∈ s, c ∈ iupacDna) : ∀ c ∈ rc s, c ∈ iupacDna := by
  simp only [rc, List.mem_reverse, List.forall_mem_map]
  exact fun d hd => compChar_closed d (h d hd)

/-- the i-th base of the reverse complement is the complement of the i-th base from the end -/
theorem rc_basewise (s : Seq) (i : Nat) (hi : i < s.length) :
    (rc s)[i]? = some (compChar (s[s.length - 1 - i]'(by omega))) := by
  simp only [rc]
  rw [List.getElem?_reverse (by simpa using hi)]
  simp only [List.length_map, List.getElem?_map, Option.map_eq_some_iff]
  exact ⟨_, List.getElem?_eq_getElem _, rfl⟩

/-- how `C11.findReverse_spec` reads a match found in the reverse complement of a region -/
theorem rc_win (t : Seq) {i j k : Nat} (h : i + k + j = t.length) : win (rc t) i k = rc (win t j k) := by
  simp only [rc, ← win_map]
  rw [win_reverse _ (by simpa using h)]

theorem complementCsv_eq (s : Seq) (h : ∀ c ∈ s, inCsv c = true) : complementCsv s = some (s.map compChar) := by
  induction s with
  | nil => rfl
  | cons c cs ih =>
    obtain ⟨d, hd⟩ := Option.isSome_iff_exists.1 (h c (by simp))
    simp [complementCsv, hd, compChar, ih (fun d hd => h d (by simp [hd]))]

theorem complementBio_eq (s : Seq) (h : ∀ c ∈ s, inCsv c = true) : complementBio s = s.map compChar := by
  refine List.map_congr_left fun c hc => ?_
  obtain ⟨d, hd⟩ := Option.isSome_iff_exists.1 (h c hc)
  rw [compChar, hd]
  exact csv_bio_agree (c, d) (lookup_mem hd)

/-- the library function, on its whole alphabet (both code paths), is the base-wise reverse complement -/
theorem reverseComplement_eq_rc (s : Seq) (h : ∀ c ∈ s, inCsv c = true) : reverseComplement s = some (rc s) := by
  simp only [reverseComplement, complement, rc]
  split
  · rw [complementCsv_eq s h]; rfl
  · rw [complementBio_eq s h]; rfl

/-- `reverse_complement(reverse_complement(s)) == s` for every IUPAC DNA string, of any length -/
theorem reverseComplement_involutive (s : Seq) (h : ∀ c ∈ s, c ∈ iupacDna) :
    (reverseComplement s).bind reverseComplement = some s := by
  rw [reverseComplement_eq_rc s fun c hc => iupac_in_csv c (h c hc), Option.bind_some,
    reverseComplement_eq_rc (rc s) fun c hc => iupac_in_csv c (rc_mem_iupac s h c hc), rc_involutive s h]

/-! ### translation -/

def standardAAs : List Char := ['A','C','D','E','F','G','H','I','K','L','M','N','P','Q','R','S','T','V','W','Y','*']
/-- no stop codon of the table is also read as an amino acid -/
def noDualStops (t : Gen.CodonTable) : Bool := t.stops.all (fun c => (lookup c t.forward).isNone)
/-- the codon `reverse_translate` picks for `a` has three letters and translates back to `a` -/
def goodAA (t : Gen.CodonTable) (a : Char) : Bool :=
  match lookup [a] t.back with
  | some (c :: _) => c.length == 3 && translateCodon t c == some a
  | _ => false

theorem tables_roundtrip : ∀ t ∈ Gen.codonTables, noDualStops t = true → ∀ a ∈ standardAAs, goodAA t a = true := by
  decide +kernel

theorem chunk3_append3 (c r : Seq) (h : c.length = 3) : chunk3 (c ++ r) = c :: chunk3 r := by
  match c, h with
  | [x, y, z], _ => rfl

theorem translate_reverseTranslate_of_good (t : Gen.CodonTable) (p : Seq)
    (hp : ∀ a ∈ p, goodAA t a = true) :
    ∃ dna, reverseTranslate t p = some dna ∧ translateCodons t (chunk3 dna) = some p := by
  induction p with
  | nil => exact ⟨[], rfl, rfl⟩
  | cons a rest ih =>
    obtain ⟨r, hr, htr⟩ := ih (fun b hb => hp b (by simp [hb]))
    have ha := hp a (by simp)
    simp only [goodAA] at ha
    split at ha
    · rename_i c cs hlook
      simp only [Bool.and_eq_true, beq_iff_eq] at ha
      refine ⟨c ++ r, ?_, ?_⟩
      · simp [reverseTranslate, hlook, hr]
      · rw [chunk3_append3 c r ha.1]
        simp [translateCodons, ha.2, htr]
    · simp at ha

/-- translating a reverse-translated protein gives the protein back, for every genetic table without dual-use stop
    codons and every protein over the 20 amino acids and `*` -/
theorem translate_reverseTranslate (t : Gen.CodonTable) (ht : t ∈ Gen.codonTables)
    (hd : noDualStops t = true) (p : Seq) (hp : ∀ a ∈ p, a ∈ standardAAs) :
    (reverseTranslate t p).bind (translate t false) = some p := by
  obtain ⟨dna, h1, h2⟩ := translate_reverseTranslate_of_good t p
    (fun a ha => tables_roundtrip t ht hd a (hp a ha))
  simp [h1, translate, h2]

/-- the hypothesis cannot be dropped: a dual-use table where the round trip fails -/
theorem dual_use_counterexample : ∃ t ∈ Gen.codonTables, noDualStops t = false ∧
    (reverseTranslate t ['*']).bind (translate t false) ≠ some ['*'] :=
  ⟨Gen.codonTable20, List.mem_of_getElem? (i := 20) rfl, by decide⟩

/-! ### GC windows -/

theorem gcCount_append (a b : Seq) : gcCount (a ++ b) = gcCount a + gcCount b := by
  simp [gcCount, List.filter_append]

theorem gcCount_cons (c : Char) (s : Seq) : gcCount (c :: s) = (if isGC c then 1 else 0) + gcCount s := by
  simp only [gcCount, List.filter_cons]
  split
  · exact Nat.add_comm _ 1
  · exact (Nat.zero_add _).symm

theorem gcCount_win (s : Seq) (j w : Nat) :
    gcCount (win s j w) = gcCount (s.take (j + w)) - gcCount (s.take j) := by
  rw [take_add_win, gcCount_append, Nat.add_sub_cancel_left]

theorem cons_cumsumFrom (acc : Nat) (s : Seq) :
    acc :: cumsumFrom acc s = (List.range (s.length + 1)).map (fun i => acc + gcCount (s.take i)) := by
  induction s generalizing acc with
  | nil => rfl
  | cons c cs ih =>
    rw [cumsumFrom, ih, List.length_cons, List.range_succ_eq_map (n := cs.length + 1), List.map_cons, List.map_map]
    simp only [gcCount_cons, Nat.add_assoc, Function.comp_def, List.take_succ_cons, Nat.succ_eq_add_one]
    rfl

theorem cumsumFrom_length (acc : Nat) (s : Seq) : (cumsumFrom acc s).length = s.length := by
  simpa using congrArg List.length (cons_cumsumFrom acc s)

/-- the windowed GC numerators of the cumulative-sum code equal the directly counted ones, one per full window
    (`gc_windows_length`: `n + 1 - w` of them, none when `w > n`) -/
theorem gc_windows_eq_count (s : Seq) (w : Nat) (hw : 1 ≤ w) :
    gcWindowsCumsum s w = gcWindowsDirect s w := by
  -- both slices are slices of `0 :: cumsum s`, the table of the prefix counts
  have ha : (cumsum s).drop (w - 1) = (0 :: cumsum s).drop w := by
    rw [← List.drop_succ_cons (a := 0), Nat.sub_add_cancel hw]
  simp only [gcWindowsCumsum, gcWindowsDirect, pySliceTo_neg _ hw]
  -- written over `range`, both sides become `(range (|s| + 1 - w)).map …`: the `min` is the number of full windows
  rw [ha, ← List.take_succ_cons, cumsum, cons_cumsumFrom, drop_map_range, ← List.map_take, List.take_range, zipWith_map_range,
    cumsumFrom_length 0 s,
    show min (s.length + 1 - w) (min (s.length - w + 1) (s.length + 1)) = s.length + 1 - w from
      Nat.min_eq_left (Nat.le_min.2 ⟨by omega, Nat.sub_le ..⟩)]
  exact List.map_congr_left fun i _ => by rw [Nat.zero_add, Nat.zero_add, gcCount_win, Nat.add_comm]

theorem gc_windows_length (s : Seq) (w : Nat) : (gcWindowsDirect s w).length = s.length + 1 - w := by
  simp [gcWindowsDirect]

/-- the global GC content, `gcCount s / |s|`, is at most 1 -/
theorem gcCount_le_length (s : Seq) : gcCount s ≤ s.length := by
  simp only [gcCount]; exact List.length_filter_le _ _

/-! ### differences and runs -/

theorem diffArray_eq_zipWith : ∀ s t : Seq, diffArray s t = List.zipWith (· != ·) s t
  | [], _ | _ :: _, [] => by simp [diffArray]
  | a :: as, b :: bs => by simp [diffArray, diffArray_eq_zipWith as bs]

theorem diffArray_length (s t : Seq) (h : s.length = t.length) : (diffArray s t).length = s.length := by
  simp [diffArray_eq_zipWith, h]

theorem diffArray_getElem? (s t : Seq) (h : s.length = t.length) (i : Nat) (hi : i < s.length) :
    (diffArray s t)[i]? = some (s[i] != t[i]'(by omega)) := by
  rw [diffArray_eq_zipWith, List.getElem?_zipWith, List.getElem?_eq_getElem hi, List.getElem?_eq_getElem (h ▸ hi)]

/-- `number_of_edits()` is the number of positions at which the two sequences differ -/
theorem diffCount_positions (s t : Seq) (h : s.length = t.length) :
    diffCount s t = ((List.range s.length).filter (fun i => s[i]? != t[i]?)).length := by
  rw [diffCount, ← List.countP_eq_length_filter, countP_eq_range, diffArray_length s t h]
  congr 1
  apply List.filter_congr
  intro i hi
  rw [List.mem_range] at hi
  simp [diffArray_getElem? s t h i hi, hi, h ▸ hi, bne]

/-! `runs` is used through `runs_cover`, `runs_sorted_separated`, `runs_total`, each an induction along the loop `runsFrom` -/

/-- the loop state of `runsFrom`: a run still open at `i` was opened before `i`; it is `[cur.getD i, i)` -/
def OpenBefore (cur : Option Nat) (i : Nat) : Prop := ∀ st, cur = some st → st < i

theorem OpenBefore.le {cur : Option Nat} {i : Nat} (h : OpenBefore cur i) : cur.getD i ≤ i := by
  cases cur with
  | none => exact Nat.le_refl i
  | some st => exact Nat.le_of_lt (h st rfl)

theorem OpenBefore.succ {cur : Option Nat} {i : Nat} (h : OpenBefore cur i) : OpenBefore (some (cur.getD i)) (i + 1) := by
  rintro st ⟨⟩
  exact Nat.lt_succ_of_le h.le

theorem openBefore_none (i : Nat) : OpenBefore none i := nofun

theorem runsFrom_cover (arr : List Bool) (i : Nat) (cur : Option Nat) (hcur : OpenBefore cur i) (j : Nat) :
    (∃ seg ∈ runsFrom i cur arr, seg.1 ≤ j ∧ j < seg.2) ↔
      ((cur.getD i ≤ j ∧ j < i) ∨ ∃ k, j = i + k ∧ arr[k]? = some true) := by
  fun_induction runsFrom i cur arr with
  | case1 i st => simp
  | case2 i => simp
  | case3 i cur bs ih =>
    -- the open run grows by position `i`
    have := hcur.le
    rw [ih hcur.succ, exists_getElem?_cons, Option.getD_some, ← or_assoc]
    refine or_congr_left ?_
    simp only [and_true]; omega
  | case4 i bs st ih =>
    -- the open run `[st, i)` is closed and emitted
    simp only [List.mem_cons, exists_eq_or_imp, ih (openBefore_none _), exists_getElem?_cons, Option.getD_none, Option.getD_some,
      reduceCtorEq, and_false, false_or]
    refine or_congr_right (or_iff_right ?_); omega
  | case5 i bs ih =>
    simp only [ih (openBefore_none _), exists_getElem?_cons, Option.getD_none, reduceCtorEq, and_false, false_or]
    refine or_congr_left ?_; omega

theorem runsFrom_sorted (arr : List Bool) (i : Nat) (cur : Option Nat) (hcur : OpenBefore cur i) :
    (runsFrom i cur arr).Pairwise (fun a b => a.2 < b.1) ∧
    ∀ seg ∈ runsFrom i cur arr, cur.getD i ≤ seg.1 ∧ seg.1 < seg.2 := by
  fun_induction runsFrom i cur arr with
  | case1 i st => simpa using hcur st rfl
  | case2 i => simp
  | case3 i cur bs ih => exact ih hcur.succ
  | case4 i bs st ih =>
    obtain ⟨hp, hs⟩ := ih (openBefore_none _)
    have hst : st < i := hcur st rfl
    exact ⟨List.pairwise_cons.2 ⟨fun seg h => (hs seg h).1, hp⟩, List.forall_mem_cons.2
      ⟨⟨Nat.le_refl st, hst⟩, fun seg h => ⟨Nat.le_of_lt (Nat.lt_trans hst (hs seg h).1), (hs seg h).2⟩⟩⟩
  | case5 i bs ih =>
    obtain ⟨hp, hs⟩ := ih (openBefore_none _)
    exact ⟨hp, fun seg h => ⟨Nat.le_of_succ_le (hs seg h).1, (hs seg h).2⟩⟩

theorem runsFrom_total (arr : List Bool) (i : Nat) (cur : Option Nat) (hcur : OpenBefore cur i) :
    ((runsFrom i cur arr).map (fun p => p.2 - p.1)).sum = (i - cur.getD i) + (arr.filter id).length := by
  fun_induction runsFrom i cur arr with
  | case1 i st => simp
  | case2 i => simp
  | case3 i cur bs ih =>
    rw [ih hcur.succ, Option.getD_some, List.filter_cons_of_pos rfl, List.length_cons, Nat.succ_sub hcur.le,
      Nat.succ_add_eq_add_succ]
  | case4 i bs st ih => simp [ih (openBefore_none _)]
  | case5 i bs ih => simp [ih (openBefore_none _)]

theorem runs_cover (arr : List Bool) (j : Nat) :
    (∃ seg ∈ runs arr, seg.1 ≤ j ∧ j < seg.2) ↔ arr[j]? = some true := by
  simp only [runs]
  rw [runsFrom_cover arr 0 none (openBefore_none 0) j]
  simp

/-- sorted, non-empty, separated by at least one matching position (hence maximal runs) -/
theorem runs_sorted_separated (arr : List Bool) :
    (runs arr).Pairwise (fun a b => a.2 < b.1) ∧ ∀ seg ∈ runs arr, seg.1 < seg.2 := by
  have := runsFrom_sorted arr 0 none (openBefore_none 0)
  exact ⟨this.1, fun seg h => (this.2 seg h).2⟩

theorem runs_total (arr : List Bool) : ((runs arr).map (fun p => p.2 - p.1)).sum = (arr.filter id).length := by
  simpa [runs] using runsFrom_total arr 0 none (openBefore_none 0)

/-- the segments of two equal-length sequences describe exactly their mismatching positions -/
theorem diff_segments_cover (s t : Seq) (h : s.length = t.length) (j : Nat) :
    (∃ seg ∈ runs (diffArray s t), seg.1 ≤ j ∧ j < seg.2) ↔ ∃ hj : j < s.length, s[j] ≠ t[j]'(by omega) := by
  rw [runs_cover]
  by_cases hj : j < s.length
  · rw [diffArray_getElem? s t h j hj]; simp [hj]
  · rw [List.getElem?_eq_none (diffArray_length s t h ▸ Nat.not_lt.1 hj)]; simp [hj]

/-! ### grouping

`groupNearbyIndices` and `groupNearbySegments` are `groupSorted` of the `mergeSort`ed input, keyed by the index itself
and by the segment's start; the theorems are on `groupSorted`, for any key. -/

theorem groupGo_flatten (mg ms : Option Int) (key : α → Int) (first last : α) (cur xs : List α) :
    (groupGo mg ms key first last cur xs).flatten = cur.reverse ++ xs := by
  fun_induction groupGo mg ms key first last cur xs with
  | case1 => simp
  | case2 first last cur x xs hok ih => simp [ih]
  | case3 first last cur x xs hok ih => simp [ih]

/-- grouping partitions its (sorted) input -/
theorem groupSorted_flatten (mg ms : Option Int) (key : α → Int) (xs : List α) :
    (groupSorted mg ms key xs).flatten = xs := by
  cases xs with
  | nil => rfl
  | cons x xs => simp [groupSorted, groupGo_flatten]

/-- the loop only runs with `first`, `last` the two ends of the current group `g`; then what holds of one-item groups
    and survives an accepted extension holds of every group produced -/
theorem groupGo_forall (mg ms : Option Int) (key : α → Int) (Q : List α → Prop) (single : ∀ x, Q [x])
    (concat : ∀ g (hg : g ≠ []) x, Q g → groupOk mg ms key (g.head hg) (g.getLast hg) x = true → Q (g ++ [x]))
    (g : List α) (hg : g ≠ []) (hq : Q g) (xs : List α) :
    ∀ g' ∈ groupGo mg ms key (g.head hg) (g.getLast hg) g.reverse xs, Q g' := by
  induction xs generalizing g with
  | nil => simpa [groupGo] using hq
  | cons x xs ih =>
    simp only [groupGo]
    split
    · -- `g ++ [x]` has the head of `g`, last item `x` and reverse `x :: g.reverse`
      simpa [hg] using ih (g ++ [x]) (by simp) (concat g hg x hq ‹_›)
    · rw [List.reverse_reverse]
      exact List.forall_mem_cons.2 ⟨hq, ih [x] (by simp) (single x)⟩

theorem groupSorted_forall (mg ms : Option Int) (key : α → Int) (Q : List α → Prop) (single : ∀ x, Q [x])
    (concat : ∀ g (hg : g ≠ []) x, Q g → groupOk mg ms key (g.head hg) (g.getLast hg) x = true → Q (g ++ [x]))
    (xs : List α) : ∀ g ∈ groupSorted mg ms key xs, Q g := by
  cases xs with
  | nil => simp [groupSorted]
  | cons x xs => exact groupGo_forall mg ms key Q single concat [x] (by simp) (single x) xs

theorem groupSorted_nonempty (mg ms : Option Int) (key : α → Int) (xs : List α) :
    ∀ g ∈ groupSorted mg ms key xs, g ≠ [] :=
  groupSorted_forall mg ms key (· ≠ []) (by simp) (by simp) xs

/-- consecutive items are related by `R` (`List.IsChain` is not in core) -/
def ChainR (R : α → α → Prop) : List α → Prop
  | [] => True
  | [_] => True
  | a :: b :: l => R a b ∧ ChainR R (b :: l)

/-- every item is within `maxSpread` of the first one and within `maxGap` of its predecessor -/
def GroupWithin (mg ms : Option Int) (key : α → Int) : List α → Prop
  | [] => True
  | first :: rest =>
    (∀ x ∈ rest, ∀ m, ms = some m → key x - key first < m) ∧
    ChainR (fun a b => ∀ m, mg = some m → key b - key a < m) (first :: rest)

theorem groupOk_spec (mg ms : Option Int) (key : α → Int) (first last x : α) :
    groupOk mg ms key first last x = true ↔
      (∀ m, mg = some m → key x - key last < m) ∧ (∀ m, ms = some m → key x - key first < m) := by
  cases mg <;> cases ms <;> simp [groupOk]

theorem chainR_concat {R : α → α → Prop} (l : List α) (hl : l ≠ []) (b : α)
    (h : ChainR R l) (hb : R (l.getLast hl) b) : ChainR R (l ++ [b]) := by
  induction l using ChainR.induct with
  | case1 => contradiction
  | case2 a => exact ⟨hb, trivial⟩
  | case3 a c l ih => exact ⟨h.1, ih (by simp) h.2 hb⟩

theorem groupWithin_concat (mg ms : Option Int) (key : α → Int) (g : List α) (hg : g ≠ []) (x : α)
    (hw : GroupWithin mg ms key g) (hok : groupOk mg ms key (g.head hg) (g.getLast hg) x = true) :
    GroupWithin mg ms key (g ++ [x]) := by
  rw [groupOk_spec] at hok
  cases g with
  | nil => contradiction
  | cons first rest =>
    refine ⟨fun y hy => ?_, chainR_concat _ hg x hw.2 hok.1⟩
    rcases List.mem_append.1 hy with hy | hy
    · exact hw.1 y hy
    · rw [List.mem_singleton.1 hy]; exact hok.2

/-- every group produced respects the gap and spread limits -/
theorem groupSorted_within (mg ms : Option Int) (key : α → Int) (xs : List α) :
    ∀ g ∈ groupSorted mg ms key xs, GroupWithin mg ms key g :=
  groupSorted_forall mg ms key _ (fun x => by simp [GroupWithin, ChainR]) (groupWithin_concat mg ms key) xs

/-! ### subdividing a window -/

/-- the number of items of `rangeStep a b m` (for `0 < m`): `⌈(b - a) / m⌉` -/
def nPieces (a b : Int) (m : Nat) : Nat := if b ≤ a then 0 else ((b - a).toNat + m - 1) / m

theorem lt_nPieces (a b : Int) (m : Nat) (hm : 0 < m) (i : Nat) :
    i < nPieces a b m ↔ a + (i : Int) * m < b := by
  rw [nPieces, ← Int.natCast_mul]
  split
  · exact iff_of_false (Nat.not_lt_zero i) (by omega)
  · -- `i + 1 ≤ ⌈d / m⌉ ↔ i * m + m ≤ d - 1 + m`, for `d = b - a`
    have hd : 0 < (b - a).toNat := Int.lt_toNat.2 (Int.sub_pos.2 (Int.not_le.1 ‹_›))
    rw [Nat.lt_iff_add_one_le, Nat.le_div_iff_mul_le hm, Nat.add_mul, Nat.one_mul, Nat.sub_add_comm hd,
      Nat.add_le_add_iff_right, Nat.le_sub_one_iff_lt hd, Int.lt_toNat, Int.add_comm, Int.lt_sub_right_iff_add_lt]

theorem rangeStep_eq (a b : Int) (m : Nat) :
    rangeStep a b m = (List.range (nPieces a b m)).map (fun (i : Nat) => a + (i : Int) * m) := by
  rw [rangeStep]
  split
  · simp [nPieces, ‹m = 0›]
  · rfl

/-- the cut points: `a + i·m` while that is below `b`, then `b` -/
theorem rangeStep_append_stop (a b : Int) (m : Nat) (hm : 0 < m) :
    rangeStep a b m ++ [b] =
      (List.range (nPieces a b m + 1)).map (fun (i : Nat) => min (a + (i : Int) * m) b) := by
  rw [rangeStep_eq, List.range_succ, List.map_append, List.map_singleton]
  congr 1
  · exact List.map_congr_left fun i hi =>
      (Int.min_eq_left (Int.le_of_lt ((lt_nPieces a b m hm i).1 (List.mem_range.1 hi)))).symm
  · -- the step after the last one is not below `b`
    have hlast : ¬ a + (nPieces a b m : Int) * m < b := mt (lt_nPieces a b m hm _).2 (Nat.lt_irrefl _)
    rw [Int.min_eq_right (Int.not_lt.1 hlast)]

theorem subdivideWindow_eq (a b : Int) (m : Nat) (hm : 0 < m) :
    subdivideWindow a b m =
      (List.range (nPieces a b m)).map (fun (i : Nat) => (a + (i : Int) * m, min (a + ((i : Int) + 1) * m) b)) := by
  rw [subdivideWindow, rangeStep_append_stop a b m hm, drop_map_range, List.zip_eq_zipWith, zipWith_map_range,
    Nat.add_sub_cancel, Nat.min_eq_right (Nat.le_succ _)]
  exact List.map_congr_left fun i hi => by
    have := (lt_nPieces a b m hm i).1 (List.mem_range.1 hi)
    rw [Int.min_eq_left (Int.le_of_lt this), Nat.add_comm 1 i, Int.natCast_succ]

theorem subdivide_spec (a b : Int) (m : Nat) (hm : 0 < m) (i : Nat) :
    (subdivideWindow a b m)[i]? =
      if i < nPieces a b m then some (a + (i : Int) * m, min (a + ((i : Int) + 1) * m) b) else none := by
  rw [subdivideWindow_eq a b m hm, List.getElem?_map]
  split
  · rw [List.getElem?_range ‹_›]; rfl
  · rw [List.getElem?_eq_none (List.length_range ▸ Nat.not_lt.1 ‹_›)]; rfl

theorem subdivide_length (a b : Int) (m : Nat) (hm : 0 < m) : (subdivideWindow a b m).length = nPieces a b m := by
  rw [subdivideWindow_eq a b m hm, List.length_map, List.length_range]

/-! ### non-vacuity -/
example : ∀ c ∈ ['A','T','G','C','N','R'], c ∈ iupacDna := by decide
example : Gen.codonTables ≠ [] ∧ (Gen.codonTables.filter noDualStops).length > 10 := by decide +kernel
#guard gcWindowsCumsum "ATGCGC".toList 2 = [0, 1, 2, 2, 2]
#guard runs (diffArray "ATGCA".toList "AGGTT".toList) = [(1, 2), (3, 5)]
#guard subdivideWindow 2 13 4 = [(2, 6), (6, 10), (10, 13)]
#guard groupNearbyIndices [5, 1, 2, 9, 4] none (some 3) = [[1, 2], [4, 5], [9]]

end Dna.C19
