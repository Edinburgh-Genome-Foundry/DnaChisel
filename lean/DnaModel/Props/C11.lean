/-
C11 — pattern search finds exactly the occurrences, on the requested strands (Model/Pattern.lean and the generated
IUPAC / regex-class tables).  Trusted: `re.search` returns the least index at which the fixed-length pattern matches
(`Pattern.firstMatch`); exercised by the correspondence check.
-/
import DnaModel.Model.Pattern
import DnaModel.Props.C19
import DnaModel.Proofs.Slice

namespace Dna.C11
open Dna Pattern

/-! ### matching a window, on either strand -/

def atgc : List Char := ['A','T','G','C']
def patternAlphabet : List Char := Gen.nucToRegexClass.map (·.1)

/-- on ATGC letters the regex classes are exactly the IUPAC sets (`x ∈ atgc` is needed: the classes also hold the
    degenerate letters they cover, `N` matches `R`) -/
theorem regex_class_eq_iupac : ∀ c ∈ patternAlphabet, ∀ x ∈ atgc,
    (classOf c).contains x = ((lookup c Gen.iupac).getD []).contains x := by decide

theorem class_comp : ∀ c ∈ patternAlphabet, ∀ x ∈ atgc,
    (classOf (compChar c)).contains x = (classOf c).contains (compChar x) := by decide +kernel

/-- `q` matches the whole of `w`: `prefixMatch` alone lets `w` go on after the pattern -/
def windowMatch (q w : Seq) : Prop := q.length = w.length ∧ prefixMatch q w = true

theorem windowMatch_iff_zip (q w : Seq) :
    windowMatch q w ↔ q.length = w.length ∧ ∀ x ∈ q.zip w, (classOf x.1).contains x.2 = true := by
  unfold windowMatch
  refine and_congr_right fun h => ?_
  fun_induction prefixMatch q w with
  | case1 => simp
  | case2 => simp at h
  | case3 p ps c cs ih =>
    simp only [Bool.and_eq_true, ih (Nat.succ.inj h), List.zip_cons_cons, List.forall_mem_cons]

theorem prefixMatch_iff (q t : Seq) : prefixMatch q t = true ↔ windowMatch q (t.take q.length) := by
  fun_induction prefixMatch q t with
  | case1 => simp [windowMatch, prefixMatch]
  | case2 => simp [windowMatch]
  | case3 p ps c cs ih =>
    simp only [prefixMatch, windowMatch, List.length_cons, List.take_succ_cons, Bool.and_eq_true, ih,
      Nat.add_right_cancel_iff]
    exact and_left_comm

theorem windowMatch_rc (q w : Seq) (hq : ∀ c ∈ q, c ∈ patternAlphabet) (hw : ∀ x ∈ w, x ∈ atgc) :
    windowMatch q (rc w) ↔ windowMatch (rc q) w := by
  simp only [windowMatch_iff_zip, C19.rc_length]
  refine and_congr_right fun hl => ?_
  -- both sides pair `q` reversed with `w`, complementing one component or the other
  have e1 : q.zip (rc w) = ((q.reverse.zip w).map (Prod.map id compChar)).reverse := by
    rw [← List.zip_map_right, ← zip_reverse _ _ (by simpa using hl), List.reverse_reverse]; rfl
  have e2 : (rc q).zip w = (q.reverse.zip w).map (Prod.map compChar id) := by
    rw [← List.zip_map_left, List.map_reverse]; rfl
  simp only [e1, e2, List.mem_reverse, List.forall_mem_map, Prod.map_fst, Prod.map_snd, id]
  refine forall_congr' fun x => forall_congr' fun hx => ?_
  obtain ⟨h1, h2⟩ := List.of_mem_zip (a := x.1) (b := x.2) hx
  rw [class_comp x.1 (hq _ (List.mem_reverse.1 h1)) x.2 (hw _ h2)]

/-- the forward and reverse occurrences of a palindromic pattern coincide, so reporting them once loses nothing -/
theorem palindrome_once (q w : Seq) (hq : ∀ c ∈ q, c ∈ patternAlphabet) (hw : ∀ x ∈ w, x ∈ atgc)
    (hp : rc q = q) : windowMatch q (rc w) ↔ windowMatch q w := by
  rw [windowMatch_rc q w hq hw, hp]

/-! ### the scanning loop finds every match

`hne` (no match on the empty string) holds of an IUPAC pattern `q ≠ []` and of a repeat of `k ≥ 1` letters, `n = 0`
included (its `size` is 0 but `matchesAt` still reads `k` letters): the next two lemmas.  Under it every round of the
loop consumes a character and position `|s|` holds no match. -/

theorem matchesAt_nil_dna (q : Seq) (hq : q ≠ []) : (Pattern.dna q).matchesAt [] = false := by
  cases q with
  | nil => exact absurd rfl hq
  | cons c cs => rfl

theorem matchesAt_nil_repeated (n k : Nat) (hk : 0 < k) : (Pattern.repeated n k).matchesAt [] = false := by
  simp only [matchesAt, repeatMatch, List.take_nil, List.length_nil, beq_false_of_ne (Nat.ne_of_lt hk), Bool.false_and]

/-- the declarative matcher: all start positions at which the pattern matches, in increasing order -/
def allMatches (p : Pattern) : Seq → List Nat
  | [] => if p.matchesAt [] then [0] else []
  | c :: cs => (if p.matchesAt (c :: cs) then [0] else []) ++ (allMatches p cs).map (· + 1)

theorem allMatches_eq_filter (p : Pattern) (s : Seq) :
    allMatches p s = (List.range (s.length + 1)).filter (fun i => p.matchesAt (s.drop i)) := by
  induction s with
  | nil => rw [filter_range_succ]; exact (List.append_nil _).symm
  | cons c cs ih => rw [List.length_cons, filter_range_succ, allMatches, ih]; rfl

theorem mem_allMatches (p : Pattern) (s : Seq) (i : Nat) :
    i ∈ allMatches p s ↔ i ≤ s.length ∧ p.matchesAt (s.drop i) = true := by
  simp [allMatches_eq_filter, Nat.lt_succ_iff]

theorem allMatches_sorted (p : Pattern) (s : Seq) : (allMatches p s).Pairwise (· < ·) := by
  rw [allMatches_eq_filter]; exact List.Pairwise.filter _ List.pairwise_lt_range

/-- `allMatches` unfolds along `firstMatch` the way `scan` does: the first match, then the matches of what follows it -/
theorem allMatches_firstMatch (p : Pattern) (hne : p.matchesAt [] = false) (s : Seq) :
    allMatches p s = match p.firstMatch s with
      | none => []
      | some st => st :: (allMatches p (s.drop (st + 1))).map (· + (st + 1)) := by
  induction s with
  | nil => simp [firstMatch, allMatches, hne]
  | cons c cs ih =>
    rw [allMatches, firstMatch]
    split
    · simp
    · rw [ih]
      cases p.firstMatch cs with
      | none => rfl
      | some k => simp [Function.comp_def, Nat.add_assoc]

theorem scan_eq (p : Pattern) (hne : p.matchesAt [] = false) (fuel : Nat) (s : Seq) (pos : Nat) (hf : s.length < fuel) :
    p.scan fuel s pos = (allMatches p s).map (· + pos) := by
  induction fuel generalizing s pos with
  | zero => exact nomatch hf
  | succ f ih =>
    rw [scan, allMatches_firstMatch p hne s]
    cases hfm : p.firstMatch s with
    | none => rfl
    | some st =>
      -- a match was found, so `s` is not empty and what is left to scan is shorter
      have hs : 0 < s.length := by cases s <;> simp [firstMatch, hne] at hfm ⊢
      simp only
      rw [ih _ _ (by rw [List.length_drop]; omega), List.map_cons, List.map_map]
      congr 1
      exact List.map_congr_left fun a _ => by simp only [Function.comp]; omega

/-- the loop of `find_matches_in_string` returns, in increasing order, exactly the positions at which the pattern
    matches, overlapping occurrences included -/
theorem scan_eq_all (p : Pattern) (hne : p.matchesAt [] = false) (s : Seq) : p.findInString s = allMatches p s := by
  simp only [findInString]
  rw [scan_eq p hne _ s 0 (Nat.lt_succ_self _)]
  simp

theorem mem_findInString (p : Pattern) (hne : p.matchesAt [] = false) (s : Seq) (i : Nat) :
    i ∈ p.findInString s ↔ i ≤ s.length ∧ p.matchesAt (s.drop i) = true := by
  rw [scan_eq_all p hne, mem_allMatches]

/-! ### searching a location, forward and reverse -/

/-- both strands' searches are this fact, for `t` the slice of the sequence or its reverse complement -/
theorem mem_findInString_dna (q : Seq) (hq : q ≠ []) (t : Seq) (i : Nat) :
    i ∈ (Pattern.dna q).findInString t ↔ i + q.length ≤ t.length ∧ windowMatch q (win t i q.length) := by
  rw [mem_findInString _ (matchesAt_nil_dna q hq), matchesAt, prefixMatch_iff, ← win_def]
  simp only [windowMatch, length_win]
  -- the window has all its `|q|` items exactly when it fits
  exact ⟨fun ⟨h1, h2, h3⟩ => ⟨Nat.add_le_of_le_sub' h1 (Nat.le_trans (Nat.le_of_eq h2) (Nat.min_le_right ..)), h2, h3⟩,
    fun ⟨h1, h2, h3⟩ => ⟨Nat.le_trans (Nat.le_add_right ..) h1, h2, h3⟩⟩

/-- **forward strand**: the matches reported for a location are exactly the windows inside the location at which the
    pattern matches, each labelled `+1` (membership only: no window twice is `allMatches_sorted` / `scan_eq_all`) -/
theorem findForward_spec (q : Seq) (hq : q ≠ []) (s : Seq) (a b : Nat) (st : Int)
    (hab : a ≤ b) (hb : b ≤ s.length) (l : Loc) :
    l ∈ (Pattern.dna q).findForward s ⟨a, b, st⟩ ↔
      ∃ j : Nat, a ≤ j ∧ j + q.length ≤ b ∧ windowMatch q (win s j q.length) ∧
        l = ⟨(j : Int), (j : Int) + q.length, 1⟩ := by
  -- every bound is written as a sum (`b = a + n`, `j = a + i`): `omega` on differences of naturals is slow to check
  obtain ⟨n, rfl⟩ := Nat.exists_eq_add_of_le hab
  simp only [findForward, List.mem_map, pySlice_natCast, Nat.add_sub_cancel_left, Pattern.size, mem_findInString_dna q hq,
    length_win_of_le s hb]
  constructor
  · rintro ⟨i, ⟨hi, hm⟩, rfl⟩
    rw [win_win _ _ hi] at hm
    exact ⟨a + i, Nat.le_add_right a i, by omega, hm, by simp only [Loc.mk.injEq, and_true]; omega⟩
  · rintro ⟨j, h1, h2, hm, rfl⟩
    obtain ⟨i, rfl⟩ := Nat.exists_eq_add_of_le h1
    have hi : i + q.length ≤ n := by omega
    exact ⟨i, ⟨hi, by rwa [win_win _ _ hi]⟩, by simp only [Loc.mk.injEq, and_true]; omega⟩

/-- **reverse strand**: exactly the windows inside the location whose reverse complement matches, each labelled `-1` -/
theorem findReverse_spec (q : Seq) (hq : q ≠ []) (s : Seq) (a b : Nat) (st : Int)
    (hab : a ≤ b) (hb : b ≤ s.length)
    (hrc : reverseComplement ((s.drop a).take (b - a)) = some (rc ((s.drop a).take (b - a)))) (l : Loc) :
    (∃ ms, (Pattern.dna q).findReverse s ⟨a, b, st⟩ = some ms ∧ l ∈ ms) ↔
      ∃ j : Nat, a ≤ j ∧ j + q.length ≤ b ∧ windowMatch q (rc (win s j q.length)) ∧
        l = ⟨(j : Int), (j : Int) + q.length, -1⟩ := by
  obtain ⟨n, rfl⟩ := Nat.exists_eq_add_of_le hab
  rw [Nat.add_sub_cancel_left, ← win_def] at hrc
  have hlen : (win s a n).length = n := length_win_of_le s hb
  -- in the reverse complement of `s[a:a+n]`, the window with `m` items after it comes from the window of `s` at `a + m`
  have hwin : ∀ i m, i + q.length + m = n → win (rc (win s a n)) i q.length = rc (win s (a + m) q.length) := by
    intro i m h
    rw [C19.rc_win _ (h.trans hlen.symm), win_win _ _ (by omega)]
  simp only [findReverse, pySlice_natCast, Nat.add_sub_cancel_left, hrc, Option.some.injEq, exists_eq_left', List.mem_map,
    Pattern.size, mem_findInString_dna q hq, C19.rc_length, hlen]
  constructor
  · rintro ⟨i, ⟨hi, hm⟩, rfl⟩
    obtain ⟨m, rfl⟩ := Nat.exists_eq_add_of_le hi
    rw [hwin i m rfl] at hm
    exact ⟨a + m, Nat.le_add_right a m, by omega, hm, by simp only [Loc.mk.injEq, and_true]; omega⟩
  · rintro ⟨j, h1, h2, hm, rfl⟩
    obtain ⟨m, rfl⟩ := Nat.exists_eq_add_of_le h1
    obtain ⟨i, rfl⟩ : ∃ i, n = i + q.length + m := ⟨n - m - q.length, by omega⟩
    exact ⟨i, ⟨Nat.le_add_right _ m, by rwa [hwin i m rfl]⟩, by simp only [Loc.mk.injEq, and_true]; omega⟩

/-! ### strand dispatch and the palindrome rule -/

theorem findMatches_plus (p : Pattern) (s : Seq) (a b : Int) :
    p.findMatches s ⟨a, b, 1⟩ = some (p.findForward s ⟨a, b, 1⟩) := by
  simp [findMatches]

theorem findMatches_minus (p : Pattern) (s : Seq) (a b : Int) (hp : p.isPalindromic = false) :
    p.findMatches s ⟨a, b, -1⟩ = p.findReverse s ⟨a, b, -1⟩ := by
  simp [findMatches, hp]

theorem findMatches_minus_palindromic (p : Pattern) (s : Seq) (a b : Int) (hp : p.isPalindromic = true) :
    p.findMatches s ⟨a, b, -1⟩ = some (p.findForward s ⟨a, b, -1⟩) := by
  simp [findMatches, hp]

theorem findMatches_both (p : Pattern) (s : Seq) (a b : Int) (hp : p.isPalindromic = false) :
    p.findMatches s ⟨a, b, 0⟩ =
      (p.findReverse s ⟨a, b, 0⟩).map (fun r => p.findForward s ⟨a, b, 0⟩ ++ r) := by
  simp [findMatches, hp]

theorem findMatches_both_palindromic (p : Pattern) (s : Seq) (a b : Int) (hp : p.isPalindromic = true) :
    p.findMatches s ⟨a, b, 0⟩ = some (p.findForward s ⟨a, b, 0⟩) := by
  simp [findMatches, hp]

/-- the constructor's palindromy flag is `rc q = q` (on the pattern alphabet) -/
theorem isPalindromic_iff (q : Seq) (hq : ∀ c ∈ q, C19.inCsv c = true) :
    (Pattern.dna q).isPalindromic = true ↔ rc q = q := by
  simp only [isPalindromic, C19.reverseComplement_eq_rc q hq]
  simp

theorem patternAlphabet_in_csv : ∀ c ∈ patternAlphabet, C19.inCsv c = true := by decide

/-! ### non-vacuity -/
-- `rw [String.toList_ofList]` unpacks a literal by a theorem (it reads `"ab"` as `String.ofList ['a', 'b']`); `decide` on the
-- packed literal makes the kernel unfold it
example : ∀ c ∈ "GANTC".toList, c ∈ patternAlphabet := by
  rw [String.toList_ofList]
  decide
example : rc "GANTC".toList = "GANTC".toList := by
  rw [String.toList_ofList]
  decide
example : windowMatch "GANTC".toList "GATTC".toList := by
  rw [String.toList_ofList, String.toList_ofList]
  exact ⟨by decide, by decide⟩
#guard (Pattern.dna "GANTC".toList).findMatches "AAGACTCAGAGTCTT".toList ⟨0, 15, 0⟩
    = some [⟨2, 7, 1⟩, ⟨8, 13, 1⟩]
#guard (Pattern.dna "AT".toList).findMatches "AATATT".toList ⟨1, 5, -1⟩ = some [⟨1, 3, 1⟩, ⟨3, 5, 1⟩]
#guard (Pattern.dna "AAC".toList).findMatches "GTTAAC".toList ⟨0, 6, 0⟩ = some [⟨3, 6, 1⟩, ⟨0, 3, -1⟩]

end Dna.C11
