/-
C07 — codon optimization reaches the true per-codon optimum and keeps the protein.
Codon-wise objectives are *separable*: the score is a sum of one term per codon position, and the hard
constraint (EnforceTranslation) lets each position range over the synonyms of its codon independently.
The theorems are about that structure (exact arithmetic) and about which codons the evaluation flags.
-/
import DnaModel.Model.Builtin
import DnaModel.Proofs.ScoreRat
import Mathlib.Data.List.Forall2
import Mathlib.Algebra.Order.Ring.Rat
import Mathlib.Tactic.Linarith
namespace Dna.C07
open Dna

variable {C : Type}

/-- one codon position: the codons the mutation space allows there (the synonyms of the original codon) and the
    objective's term as a function of the codon placed there -/
structure Pos (C : Type) where
  syn : List C
  w : C → Rat

def total (ps : List (Pos C)) (cs : List C) : Rat := (List.zipWith (fun p c => p.w c) ps cs).sum

theorem total_cons (p : Pos C) (ps : List (Pos C)) (c : C) (cs : List C) :
    total (p :: ps) (c :: cs) = p.w c + total ps cs := by
  simp only [total, List.zipWith_cons_cons, List.sum_cons]

/-- same protein: every position holds one of its synonyms -/
def Synonymous (ps : List (Pos C)) (cs : List C) : Prop := List.Forall₂ (fun p c => c ∈ p.syn) ps cs

/-- what an exhaustive search over one codon at a time leaves behind (cf. `C06.optimizeExhaustive_max`) -/
def CoordOpt (ps : List (Pos C)) (cs : List C) : Prop :=
  List.Forall₂ (fun p c => c ∈ p.syn ∧ ∀ c' ∈ p.syn, p.w c' ≤ p.w c) ps cs

/-- **codon by codon is enough**: a sequence that is optimal at every codon position is optimal among all
    sequences encoding the same protein -/
theorem coordinatewise_optimal_is_global (ps : List (Pos C)) (cs cs' : List C)
    (h : CoordOpt ps cs) (h' : Synonymous ps cs') : total ps cs' ≤ total ps cs := by
  induction h generalizing cs' with
  | nil => cases h'; simp [total]
  | cons hpc _ ih =>
    cases h' with
    | cons hc' hrest =>
      rw [total_cons, total_cons]
      exact add_le_add (hpc.2 _ hc') (ih _ hrest)

/-- and conversely -/
theorem global_optimal_is_coordinatewise (ps : List (Pos C)) (cs : List C) (hs : Synonymous ps cs)
    (h : ∀ cs', Synonymous ps cs' → total ps cs' ≤ total ps cs) : CoordOpt ps cs := by
  induction hs with
  | nil => exact List.Forall₂.nil
  | @cons p c ps' cs' hc hrest ih =>
    refine .cons ⟨hc, fun c' hc' => ?_⟩ (ih fun t ht => ?_)
    · have := h (c' :: cs') (.cons hc' hrest)
      rwa [total_cons, total_cons, add_le_add_iff_right] at this
    · have := h (c :: t) (.cons hc ht)
      rwa [total_cons, total_cons, add_le_add_iff_left] at this

/-- "the best achievable codon by codon" is one value -/
theorem coordopt_total_unique (ps : List (Pos C)) (cs cs' : List C) (h : CoordOpt ps cs) (h' : CoordOpt ps cs') :
    total ps cs = total ps cs' := by
  have syn_of : ∀ {xs}, CoordOpt ps xs → Synonymous ps xs := fun hx => hx.imp (fun _ _ hh => hh.1)
  exact le_antisymm (coordinatewise_optimal_is_global ps cs' cs h' (syn_of h))
    (coordinatewise_optimal_is_global ps cs cs' h (syn_of h'))

theorem total_nonpos (ps : List (Pos C)) (cs : List C) (h : List.Forall₂ (fun p c => p.w c ≤ 0) ps cs) :
    total ps cs ≤ 0 ∧ (total ps cs = 0 ↔ List.Forall₂ (fun p c => p.w c = 0) ps cs) := by
  induction h with
  | nil => simp [total]
  | cons hpc _ ih =>
    rw [total_cons, List.forall₂_cons, ← ih.2]
    exact ⟨by linarith [ih.1], fun h0 => ⟨by linarith [ih.1], by linarith [ih.1]⟩, fun ⟨e1, e2⟩ => by rw [e1, e2, add_zero]⟩

/-! ### MaximizeCAI: term = log f(codon) − log f(best synonym) -/

/-- a CAI position: `lf` the log-frequency of each synonym, `lbest` the largest of them -/
structure CaiPos (C : Type) where
  syn : List C
  lf : C → Rat
  lbest : Rat
  le_best : ∀ c ∈ syn, lf c ≤ lbest
  attained : ∃ c ∈ syn, lf c = lbest

def CaiPos.toPos (p : CaiPos C) : Pos C := ⟨p.syn, fun c => p.lf c - p.lbest⟩

theorem cai_terms_nonpos (ps : List (CaiPos C)) (cs : List C) (hs : Synonymous (ps.map CaiPos.toPos) cs) :
    List.Forall₂ (fun p c => p.w c ≤ 0) (ps.map CaiPos.toPos) cs :=
  List.forall₂_map_left_iff.2 ((List.forall₂_map_left_iff.1 hs).imp fun p c hc => sub_nonpos.2 (p.le_best c hc))

/-- the CAI score never exceeds its declared best possible score 0 -/
theorem cai_total_nonpos (ps : List (CaiPos C)) (cs : List C) (hs : Synonymous (ps.map CaiPos.toPos) cs) :
    total (ps.map CaiPos.toPos) cs ≤ 0 :=
  (total_nonpos _ _ (cai_terms_nonpos ps cs hs)).1

/-- **score = best possible ⇔ every codon is a most-frequent synonym** -/
theorem cai_total_zero_iff (ps : List (CaiPos C)) (cs : List C) (hs : Synonymous (ps.map CaiPos.toPos) cs) :
    total (ps.map CaiPos.toPos) cs = 0 ↔ List.Forall₂ (fun p c => p.lf c = p.lbest) ps cs := by
  rw [(total_nonpos _ _ (cai_terms_nonpos ps cs hs)).2, List.forall₂_map_left_iff]
  simp only [CaiPos.toPos, sub_eq_zero]

/-- hence (by `coordinatewise_optimal_is_global`) no synonymous sequence scores higher than one of most-frequent synonyms -/
theorem cai_best_codons_optimal (ps : List (CaiPos C)) (cs : List C) (hs : Synonymous (ps.map CaiPos.toPos) cs)
    (hb : List.Forall₂ (fun p c => p.lf c = p.lbest) ps cs) : CoordOpt (ps.map CaiPos.toPos) cs := by
  rw [CoordOpt, List.forall₂_map_left_iff]
  rw [Synonymous, List.forall₂_map_left_iff] at hs
  refine List.forall₂_iff_get.2 ⟨hs.length_eq, fun i h1 h2 => ⟨hs.get h1 h2, fun c' hc' => ?_⟩⟩
  exact sub_le_sub_right (((ps.get ⟨i, h1⟩).le_best c' hc').trans_eq (hb.get h1 h2).symm) _

/-! ### HarmonizeRCA: term = −|rca_target(codon) − rca_original(original codon)| -/

/-- a harmonization position: `rt` the target-organism adaptiveness of each synonym, `ro` that of the original
    codon in its source organism, `smallest` the smallest discrepancy any synonym achieves (what
    `initialized_on_problem` computes after the fix D7, DESIGN.md 0.4) -/
structure RcaPos (C : Type) where
  syn : List C
  rt : C → Rat
  ro : Rat
  smallest : Rat
  le_all : ∀ c ∈ syn, smallest ≤ |rt c - ro|
  attained : ∃ c ∈ syn, |rt c - ro| = smallest

def RcaPos.toPos (p : RcaPos C) : Pos C := ⟨p.syn, fun c => - |p.rt c - p.ro|⟩

/-- the test of both evaluations: `m` an attained lower bound of `g` over the synonyms, `m - g c ≠ 0` the flag -/
theorem flagged_iff (syn : List C) (g : C → Rat) (m : Rat) (hle : ∀ c ∈ syn, m ≤ g c) (hatt : ∃ c ∈ syn, g c = m)
    (c : C) (hc : c ∈ syn) : m - g c ≠ 0 ↔ ∃ c' ∈ syn, g c' < g c := by
  -- both sides say `m < g c`: the bound `m` is attained, and no value lies below it
  rw [sub_ne_zero, ← (hle c hc).lt_iff_ne]
  exact ⟨fun h => let ⟨c', hc', he⟩ := hatt; ⟨c', hc', he ▸ h⟩, fun ⟨c', hc', hlt⟩ => (hle c' hc').trans_lt hlt⟩

/-- **the evaluation flags exactly the improvable codons**: `smallest − discrepancy ≠ 0` (the test in `evaluate`)
    holds iff some synonym is strictly closer to the original codon's adaptiveness -/
theorem rca_flagged_iff (p : RcaPos C) (c : C) (hc : c ∈ p.syn) :
    p.smallest - |p.rt c - p.ro| ≠ 0 ↔ ∃ c' ∈ p.syn, |p.rt c' - p.ro| < |p.rt c - p.ro| :=
  flagged_iff p.syn (fun c => |p.rt c - p.ro|) p.smallest p.le_all p.attained c hc

-- `hc`: the statement carries it, the proof does not need it
set_option linter.unusedVariables false in
theorem rca_unflagged_optimal (p : RcaPos C) (c : C) (hc : c ∈ p.syn) (h : p.smallest - |p.rt c - p.ro| = 0) :
    ∀ c' ∈ p.syn, p.toPos.w c' ≤ p.toPos.w c := by
  intro c' hc'
  have := p.le_all c' hc'
  simp only [RcaPos.toPos]
  linarith

/-- the same for CAI: `log best − log f ≠ 0` flags exactly the codons that are not most frequent -/
theorem cai_flagged_iff (p : CaiPos C) (c : C) (hc : c ∈ p.syn) :
    p.lbest - p.lf c ≠ 0 ↔ ∃ c' ∈ p.syn, p.lf c < p.lf c' := by
  -- `flagged_iff` for `-lf`, whose attained lower bound is `-lbest`
  rw [← neg_ne_zero, neg_sub, ← neg_sub_neg]
  simpa only [neg_lt_neg_iff] using flagged_iff p.syn (fun c => -p.lf c) (-p.lbest)
    (fun c hc => neg_le_neg (p.le_best c hc)) (p.attained.imp fun c h => ⟨h.1, congrArg Neg.neg h.2⟩) c hc

/-! ### the protein is kept: synonymous replacement codon by codon -/

theorem translation_kept (tr : C → Char) (cs cs' : List C) (h : List.Forall₂ (fun a b => tr a = tr b) cs cs') :
    cs.map tr = cs'.map tr := by
  induction h with
  | nil => rfl
  | cons hab _ ih => simp [hab, ih]

/-! ### the model of `MaximizeCAI.evaluate` (Model/Builtin.lean) flags exactly the non-optimal codons -/

/-- on a region of several codons the evaluation is `−Σ (log best − log f)` and its locations are the codon
    positions whose term is not zero: no sub-optimal codon is left unflagged, whatever its position.
    `p.2 - p.1`, for `p` in `ts`, is the `lbest - lf c` of `cai_flagged_iff`. -/
theorem cai_evaluate_flags (lf : List (Seq × Rat)) (lb : List (Char × Rat)) (ca : List (Seq × Char)) (loc : Loc) (s sub : Seq)
    (ts : List (Rat × Rat)) (hext : loc.extract s = some sub) (h3 : sub.length % 3 = 0)
    (hts : (chunk3 sub).map (BSpec.caiTerm lf lb ca) = ts.map some)
    (hne : ts.length ≠ 1) :
    BSpec.evaluate (.cai lf lb ca loc : BSpec Rat) s =
      some ⟨NumK.neg (NumK.sum (ts.map (fun p => NumK.sub p.2 p.1))),
        some (BSpec.codonIndicesToLocs loc ((List.range ts.length).filter (fun i =>
          match ts[i]? with | some p => decide (p.2 - p.1 ≠ 0) | none => false)))⟩ := by
  have h3' : (sub.length % 3 != 0) = false := by simp [h3]
  have hany : (ts.map some).any (·.isNone) = false := by simp
  have hfm : (ts.map some).filterMap id = ts := by simp [List.filterMap_map]
  simp only [BSpec.evaluate, hext, h3', hts, hany, hfm, Bool.false_eq_true, if_false]
  -- the first branch is the single-codon formula
  split
  · exact absurd rfl hne
  · congr 4
    rw [List.length_map]
    refine List.filter_congr fun i _ => ?_
    rw [List.getElem?_map]
    cases ts[i]? with
    | none => rfl
    -- over ℚ, `Score.eq x 0` unfolds to `decide (x = 0)`
    | some p => exact (decide_not (p := p.2 - p.1 = 0)).symm

/-! non-vacuity: a two-codon region -/
def exPos : CaiPos Nat := ⟨[0, 1, 2], fun c => if c = 1 then 0 else -1, 0, by decide, ⟨1, by decide, by decide⟩⟩
example : total ([exPos, exPos].map CaiPos.toPos) [1, 1] = 0 := by decide +kernel
example : total ([exPos, exPos].map CaiPos.toPos) [0, 1] = -1 := by decide +kernel

end Dna.C07
