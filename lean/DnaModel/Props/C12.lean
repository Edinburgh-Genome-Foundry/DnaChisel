/-
C12 — a failed or interrupted solve leaves a usable, restriction-respecting problem.

For ARBITRARY specifications (they may raise at any evaluation call index, localize wrongly, lie in their heuristics) and
every outcome of every solver entry point — normal return, NoSolutionError, or an exception thrown from a specification —
the sequence left in the problem satisfies every predicate `Q` that held at the start and is closed under the mutation
space's candidate generators (`*_inv`).  With `Q := InSp` (right length and every hard nucleotide restriction,
`closed_inSp`) this is the property.  The recorded original sequence and the constraint lists live in the `Frame`, which
no solver function returns: they are unchanged by construction.
-/
import DnaModel.Props.C15
import DnaModel.Proofs.SolverPure
set_option linter.unusedSectionVars false
namespace Dna.C12
open Dna Solver C15
variable {σ K : Type} [BEq σ] [Score K]
/-- `Q` is closed under the candidate generators of the space -/
def Closed (Q : Seq → Prop) (sp : Space) : Prop :=
  (∀ s vs, Q s → sp.allVariants s = .ok vs → ∀ v ∈ vs, Q v) ∧
  (∀ n s t r t', Q s → sp.applyRandomMutations n s t = .ok (r, t') → Q r)

/-- what the candidate generators of `sp` do to a sequence -/
def Edit (sp : Space) (s r : Seq) : Prop :=
  r.length = s.length ∧ ∃ chosen : List Choice, (∀ c ∈ chosen, c ∈ sp.multichoices ∧ c.seg r ∈ c.variants) ∧
    ∀ i, (∀ c ∈ chosen, ¬ (c.start ≤ i ∧ i < c.stop)) → r[i]? = s[i]?

/-- the only place where the mutation-space theorems of C15 (`allVariants_enumerates`, `applyRandomMutations_spec`)
    are needed -/
theorem closed_of_edit (Q : Seq → Prop) (n : Nat) (sp : Space) (hmc : ChoicesFit n sp.multichoices)
    (hlen : ∀ s, Q s → s.length = n) (h : ∀ s r, Q s → Edit sp s r → Q r) : Closed Q sp := by
  constructor
  · intro s vs hs hvs v hv
    have hen := allVariants_enumerates sp s vs (hlen s hs ▸ mcFits_of_choicesFit hmc) hvs
    obtain ⟨hl, hin, hout⟩ := (hen.2.2.2 v).1 hv
    exact h s v hs ⟨hl, sp.multichoices, fun c hc => ⟨hc, hin c hc⟩, hout⟩
  · intro k s t r t' hs hm
    obtain ⟨hl, chosen, _, hsub, _, hin, hout⟩ := applyRandomMutations_spec sp k s t t' r (hlen s hs ▸ hmc) hm
    exact h s r hs ⟨hl, chosen, fun c hc => ⟨hsub c hc, (hin c hc).1⟩, hout⟩

theorem exhaustiveLoop_inv (Q : Seq → Prop) (ops : SpecOps σ K) (F : Frame σ) (focus) (vs : List Seq) (cur : Seq)
    (st : St σ K) (hvs : ∀ v ∈ vs, Q v) (hc : Q cur) : Q (exhaustiveLoop ops F focus vs cur st).2.1 := by
  fun_induction exhaustiveLoop ops F focus vs cur st with
  | case1 => exact hc
  | case2 | case3 => exact hvs _ (.head _)
  | case4 =>
    rename_i ih
    exact ih (fun w hw => hvs w (.tail _ hw)) (hvs _ (.head _))

theorem resolveExhaustive_inv (Q : Seq → Prop) (ops : SpecOps σ K) (F : Frame σ) (s : Seq) (st : St σ K)
    (hcl : Closed Q F.space) (hs : Q s) : Q (resolveExhaustive ops F s st).2.1 := by
  fun_cases resolveExhaustive ops F s st with
  | case1 => exact hs
  | case2 | case3 =>
    rename_i hl
    exact (hl ▸ exhaustiveLoop_inv Q ops F _ _ s st (hcl.1 s _ hs ‹_›) hs :)
  | case4 => exact hs    -- enumeration exhausted: the start sequence is put back

theorem mutate_inv {Q : Seq → Prop} {sett : Settings} {F : Frame σ} {s s' : Seq} {st st' : St σ K}
    (hcl : Closed Q F.space) (hs : Q s) (h : mutate sett F s st = (.ok s', st')) : Q s' := by
  revert h
  fun_cases mutate sett F s st with
  | case1 => nofun
  | case2 =>
    rename_i hm
    rintro ⟨⟩
    exact hcl.2 _ _ _ _ _ hs hm

theorem randomLoop_inv (Q : Seq → Prop) (ops : SpecOps σ K) (sett : Settings) (F : Frame σ) (fuel : Nat) (evs) (score : K)
    (s : Seq) (st : St σ K) (hcl : Closed Q F.space) (hs : Q s) :
    Q (randomLoop ops sett F fuel evs score s st).2.1 := by
  fun_induction randomLoop ops sett F fuel evs score s st with
  | case1 | case2 | case3 => exact hs
  | case4 _ _ _ _ _ _ _ _ hm => exact mutate_inv hcl hs hm
  | case5 _ _ _ _ _ _ _ _ hm =>
    rename_i ih
    exact ih (mutate_inv hcl hs hm)
  | case6 =>
    rename_i ih
    exact ih hs

theorem singleLoop_inv (Q : Seq → Prop) (ops : SpecOps σ K) (sett : Settings) (F : Frame σ) (f : σ) (others : List σ)
    (fuel : Nat) (score : K) (s : Seq) (st : St σ K) (hcl : Closed Q F.space) (hs : Q s) :
    Q (singleLoop ops sett F f others fuel score s st).2.1 := by
  fun_induction singleLoop ops sett F f others fuel score s st with
  | case1 | case2 => exact hs
  | case3 _ _ _ _ _ _ hm | case4 _ _ _ _ _ _ hm | case5 _ _ _ _ _ _ hm => exact mutate_inv hcl hs hm
  | case6 _ _ _ _ _ _ hm =>
    rename_i ih
    exact ih (mutate_inv hcl hs hm)
  | case7 | case8 =>
    rename_i ih
    exact ih hs

theorem resolveRandom_inv (Q : Seq → Prop) (ops : SpecOps σ K) (sett : Settings) (F : Frame σ) (s : Seq) (st : St σ K)
    (hcl : Closed Q F.space) (hs : Q s) : Q (resolveRandom ops sett F s st).2.1 := by
  fun_cases resolveRandom ops sett F s st with
  | case1 | case3 => exact hs
  | case2 => exact singleLoop_inv Q ops sett F _ _ _ _ s st hcl hs
  | case4 => exact randomLoop_inv Q ops sett F _ _ _ s _ hcl hs

theorem resolveLocally_inv (Q : Seq → Prop) (ops : SpecOps σ K) (sett : Settings) (F : Frame σ) (s : Seq) (st : St σ K)
    (hcl : Closed Q F.space) (hs : Q s) : Q (resolveLocally ops sett F s st).2.1 := by
  fun_cases resolveLocally ops sett F s st with
  | case1 => exact resolveExhaustive_inv Q ops F s st hcl hs
  | case2 => exact resolveRandom_inv Q ops sett F s st hcl hs

theorem optExhaustiveLoop_inv (Q : Seq → Prop) (ops : SpecOps σ K) (F : Frame σ) (bp : Option K) (vs : List Seq)
    (bestScore : K) (bestSeq cur : Seq) (st : St σ K) (hvs : ∀ v ∈ vs, Q v) (hb : Q bestSeq) (hc : Q cur) :
    Q (optExhaustiveLoop ops F bp vs bestScore bestSeq cur st).2.1 ∧
    (∀ b, (optExhaustiveLoop ops F bp vs bestScore bestSeq cur st).1 = .ok b → Q b) := by
  fun_induction optExhaustiveLoop ops F bp vs bestScore bestSeq cur st with
  | case1 => exact ⟨hc, fun _ h => Except.ok.inj h ▸ hb⟩
  | case2 | case4 => exact ⟨hvs _ (.head _), nofun⟩
  | case5 => exact ⟨hvs _ (.head _), fun _ h => Except.ok.inj h ▸ hvs _ (.head _)⟩
  | case3 | case7 =>
    rename_i ih
    exact ih (fun w hw => hvs w (.tail _ hw)) hb (hvs _ (.head _))
  | case6 =>
    rename_i ih
    exact ih (fun w hw => hvs w (.tail _ hw)) (hvs _ (.head _)) (hvs _ (.head _))

theorem optimizeExhaustive_inv (Q : Seq → Prop) (ops : SpecOps σ K) (F : Frame σ) (s : Seq) (st : St σ K)
    (hcl : Closed Q F.space) (hs : Q s) : Q (optimizeExhaustive ops F s st).2.1 := by
  fun_cases optimizeExhaustive ops F s st with
  | case1 | case2 | case3 | case4 | case5 => exact hs
  | case6 =>
    rename_i vs hvs _ _ _ hl
    exact (hl ▸ optExhaustiveLoop_inv Q ops F _ vs _ s s _ (hcl.1 s vs hs hvs) hs hs).1
  | case7 =>
    rename_i vs hvs _ _ _ hl
    exact (hl ▸ optExhaustiveLoop_inv Q ops F _ vs _ s s _ (hcl.1 s vs hs hvs) hs hs).2 _ rfl

theorem optRandomLoop_inv (Q : Seq → Prop) (ops : SpecOps σ K) (sett : Settings) (F : Frame σ) (bp : Option K)
    (fuel : Nat) (score : K) (stag : Nat) (s : Seq) (st : St σ K) (hcl : Closed Q F.space) (hs : Q s) :
    Q (optRandomLoop ops sett F bp fuel score stag s st).2.1 := by
  fun_induction optRandomLoop ops sett F bp fuel score stag s st with
  | case1 | case2 | case3 | case4 => exact hs
  | case5 _ _ _ _ _ _ _ _ _ hm | case6 _ _ _ _ _ _ _ _ _ hm => exact mutate_inv hcl hs hm
  | case7 _ _ _ _ _ _ _ _ _ hm =>
    rename_i ih
    exact ih (mutate_inv hcl hs hm)
  | case8 | case9 =>
    rename_i ih
    exact ih hs

theorem optimizeRandom_inv (Q : Seq → Prop) (ops : SpecOps σ K) (sett : Settings) (F : Frame σ) (s : Seq) (st : St σ K)
    (hcl : Closed Q F.space) (hs : Q s) : Q (optimizeRandom ops sett F s st).2.1 := by
  fun_cases optimizeRandom ops sett F s st with
  | case1 | case2 | case3 | case4 => exact hs
  | case5 => exact optRandomLoop_inv Q ops sett F _ _ _ _ s _ hcl hs

theorem localOptimize_inv (Q : Seq → Prop) (ops : SpecOps σ K) (sett : Settings) (LF : Frame σ) (s : Seq) (st : St σ K)
    (hcl : Closed Q LF.space) (hs : Q s) : Q (localOptimize ops sett LF s st).2.1 := by
  fun_cases localOptimize ops sett LF s st with
  | case1 => exact optimizeExhaustive_inv Q ops LF s st hcl hs
  | case2 => exact optimizeRandom_inv Q ops sett LF s st hcl hs

/-! ### whole-problem solves: loops over local problems

The loops of `resolve_constraints()` / `optimize()` over constraints, locations and objectives thread the sequence through
a step and stop at the first error, so they preserve whatever their step preserves (`seqLoop_inv`; the loop over
extensions has a third outcome, "solved", and its own induction).  The steps that do something are `tryExtension` and
`optimizeLocation`: their invariance is a hypothesis here (`htry`, `hloc`), so that C02, C03 and C13 can bring their own
invariant. -/

/-- `step` also receives the rest of the list: the step of `locationsLoop` looks at the next location -/
theorem seqLoop_inv {α : Type} (Q : Seq → Prop) (step : α → List α → Seq → St σ K → Except Err Unit × Seq × St σ K)
    (loop : List α → Seq → St σ K → Except Err Unit × Seq × St σ K)
    (hnil : ∀ s st, loop [] s st = (.ok (), s, st))
    (hcons : ∀ a as s st, loop (a :: as) s st =
      match step a as s st with
      | (.error e, s, st) => (.error e, s, st)
      | (.ok (), s, st) => loop as s st)
    (hstep : ∀ a as s st, Q s → Q (step a as s st).2.1) (as : List α) (s : Seq) (st : St σ K) (hs : Q s) :
    Q (loop as s st).2.1 := by
  induction as generalizing s st with
  | nil => rw [hnil]; exact hs
  | cons a as ih =>
    have key := hstep a as s st hs
    rw [hcons]
    generalize step a as s st = r at key
    obtain ⟨_ | _, s1, st1⟩ := r
    · exact key
    · exact ih s1 st1 key

section resolve
variable (Q : Seq → Prop) (ops : SpecOps σ K) (sett : Settings) (rs : Seq → Seq) (F : Frame σ)
  (htry : ∀ c nl loc ext isLast s st, Q s → Q (tryExtension ops sett rs F c nl loc ext isLast s st).2.1)
include htry

theorem extensionsLoop_inv (c : σ) (nl : Option Loc) (loc : Loc) (lastExt : Option Int) (exts : List Int) (s : Seq)
    (st : St σ K) (hs : Q s) : Q (extensionsLoop ops sett rs F c nl loc lastExt exts s st).2.1 := by
  fun_induction extensionsLoop ops sett rs F c nl loc lastExt exts s st with
  | case1 => exact hs
  | case2 | case3 =>
    rename_i hl
    exact (hl ▸ htry _ _ _ _ _ _ _ hs :)
  | case4 =>
    rename_i hl ih
    exact ih (hl ▸ htry _ _ _ _ _ _ _ hs :)

theorem resolveConstraint_inv (c : σ) (s : Seq) (st : St σ K) (hs : Q s) :
    Q (resolveConstraint ops sett rs F c s st).2.1 := by
  fun_cases resolveConstraint ops sett rs F c s st with
  | case1 | case2 | case3 => exact hs
  | case4 =>
    exact seqLoop_inv Q
      (fun loc rest => extensionsLoop ops sett rs F c rest.head? loc sett.localExtensions.getLast? sett.localExtensions)
      (locationsLoop ops sett rs F c) (fun _ _ => rfl) (fun _ _ _ _ => rfl)
      (fun loc rest => extensionsLoop_inv Q ops sett rs F htry c _ loc _ _) _ s _ hs

theorem resolveEach_inv (cs : List σ) (s : Seq) (st : St σ K) (hs : Q s) :
    Q (resolveEach ops sett rs F cs s st).2.1 :=
  seqLoop_inv Q (fun c _ => resolveConstraint ops sett rs F c) (resolveEach ops sett rs F) (fun _ _ => rfl)
    (fun _ _ _ _ => rfl) (fun c _ => resolveConstraint_inv Q ops sett rs F htry c) cs s st hs

end resolve

/-- **C12 for `resolve_constraints()`**: whatever the outcome — return, `NoSolutionError`, or an exception thrown by a
    specification at any evaluation — the sequence left in the problem satisfies every predicate `Q` that the start
    sequence satisfies and that every attempt on a local problem preserves (the final check does not write the
    sequence) -/
theorem resolveConstraints_inv (Q : Seq → Prop) (ops : SpecOps σ K) (sett : Settings) (F : Frame σ)
    (htry : ∀ c nl loc ext isLast s st, Q s → Q (tryExtension ops sett id F c nl loc ext isLast s st).2.1)
    (s : Seq) (st : St σ K) (hs : Q s) : Q (resolveConstraints ops sett F s st).2.1 := by
  have key := resolveEach_inv Q ops sett id F htry (byPriority ops (F.constraints.filter (fun c => !ops.enforced c))) s st hs
  simp only [resolveConstraints]
  split
  · exact hs
  · generalize resolveEach ops sett id F _ s st = r at key
    obtain ⟨_ | _, s1, st1⟩ := r
    · exact key
    · exact key

section optimize
variable (Q : Seq → Prop) (ops : SpecOps σ K) (sett : Settings) (F : Frame σ)
  (hloc : ∀ loc s st, Q s → Q (optimizeLocation ops sett F loc s st).2.1)
include hloc

-- sealed, because checking the loop's second equation by `rfl` otherwise evaluates the `match` on the call of
-- `optimizeLocation`, and that unfolds it down to the size of the localized space
seal optimizeLocation in
theorem optimizeObjective_inv (o : σ) (s : Seq) (st : St σ K) (hs : Q s) :
    Q (optimizeObjective ops sett F o s st).2.1 := by
  fun_cases optimizeObjective ops sett F o s st with
  | case1 | case2 | case3 => exact hs
  | case4 =>
    exact seqLoop_inv Q (fun l _ => optimizeLocation ops sett F l) (optimizeLocations ops sett F) (fun _ _ => rfl)
      (fun _ _ _ _ => rfl) (fun l _ => hloc l) _ s _ hs

/-- **C12 for `optimize()`**: whatever the outcome, a predicate that the optimisation of one location preserves is kept -/
theorem optimize_inv (s : Seq) (st : St σ K) (hs : Q s) : Q (optimize ops sett F s st).2.1 :=
  seqLoop_inv Q (fun o _ => optimizeObjective ops sett F o) (optimizeEach ops sett F) (fun _ _ => rfl)
    (fun _ _ _ _ => rfl) (fun o _ => optimizeObjective_inv Q ops sett F hloc o) _ s st hs

end optimize

/-- hypotheses on the environment of a whole-problem solve; `replaceSeq` stands for `_replace_sequence` -/
structure Env (Q : Seq → Prop) (ops : SpecOps σ K) (F : Frame σ) (replaceSeq : Seq → Seq) : Prop where
  localClosed : ∀ a b : Int, Closed Q (F.space.localized a b)
  heuristicOk : ∀ c h, ops.heuristic c = some h → ∀ view k, Q view.seq → Q (h view k).1
  replaceOk : ∀ t, Q t → Q (replaceSeq t)

theorem localSolve_inv (Q : Seq → Prop) (ops : SpecOps σ K) (sett : Settings) (c : σ) (LF : Frame σ) (s : Seq) (st : St σ K)
    (hh : ∀ h, ops.heuristic c = some h → ∀ view k, Q view.seq → Q (h view k).1)
    (hcl : Closed Q LF.space) (hs : Q s) : Q (localSolve ops sett c LF s st).2.1 := by
  fun_cases localSolve ops sett c LF s st with
  | case1 h hhe => exact hh h hhe _ _ hs
  | case2 => exact resolveLocally_inv Q ops sett LF s st hcl hs

/-- what `tryExtension` leaves in the sequence slot, for arbitrary specifications: `s`, or `rs` of what a successful
    `localSolve` left, on a local problem whose space is the localization of `F.space` to the extended location -/
theorem tryExtension_seq (ops : SpecOps σ K) (sett : Settings) (rs : Seq → Seq) (F : Frame σ) (c : σ) (nl : Option Loc)
    (loc : Loc) (ext : Int) (isLast : Bool) (s : Seq) (st : St σ K) :
    (tryExtension ops sett rs F c nl loc ext isLast s st).2.1 = s ∨
    ∃ (LF : Frame σ) (st5 : St σ K) (ls : Seq) (st6 : St σ K),
      LF.space = F.space.localized (loc.extended ext).start (loc.extended ext).stop ∧
      localSolve ops sett c LF s st5 = (.ok (), ls, st6) ∧
      (tryExtension ops sett rs F c nl loc ext isLast s st).2.1 = rs ls := by
  fun_cases tryExtension ops sett rs F c nl loc ext isLast s st
  -- of all the exits only the one after a successful `localSolve` does not return `s` itself
  any_goals exact Or.inl rfl
  rename_i LF st5 hnl ls st6 hsol
  exact Or.inr ⟨LF, st5, ls, st6, newLocal_space hnl, hsol, rfl⟩

theorem tryExtension_inv (Q : Seq → Prop) (ops : SpecOps σ K) (sett : Settings) (rs : Seq → Seq) (F : Frame σ)
    (henv : Env Q ops F rs) (c : σ) (nl : Option Loc) (loc : Loc) (ext : Int) (isLast : Bool) (s : Seq) (st : St σ K)
    (hs : Q s) : Q (tryExtension ops sett rs F c nl loc ext isLast s st).2.1 := by
  rcases tryExtension_seq ops sett rs F c nl loc ext isLast s st with h | ⟨LF, st5, ls, st6, hsp, hsol, h⟩
  · rw [h]; exact hs
  · have key := localSolve_inv Q ops sett c LF s st5 (henv.heuristicOk c) (hsp ▸ henv.localClosed _ _) hs
    rw [hsol] at key
    rw [h]; exact henv.replaceOk ls key

/-- what `optimizeLocation` leaves in the sequence slot, for arbitrary specifications: `s`, or the result of a
    successful `localOptimize` on the local problem `LF` that `newLocal` built from the specifications localized to the
    span `[a, b)` of the multi-variant choices under the location (the calls are named so that a caller who knows what
    they return, e.g. for pure specifications, can say what `LF` is) -/
theorem optimizeLocation_seq (ops : SpecOps σ K) (sett : Settings) (F : Frame σ) (loc : Loc) (s : Seq) (st : St σ K) :
    (optimizeLocation ops sett F loc s st).2.1 = s ∨
    ∃ (a b : Nat) (lcs los : List σ) (LF : Frame σ) (st1 st2 st3 : St σ K) (ls : Seq) (st4 : St σ K),
      (F.space.localized loc.start loc.stop).choicesSpan = some (a, b) ∧
      localizeAll ops s ⟨a, b, 0⟩ F.constraints st = (.ok lcs, st1) ∧
      localizeAll ops s ⟨a, b, 0⟩ (F.objectives.filter (fun o => !Score.eq (ops.boost o) (Score.zero : K))) st1 =
        (.ok los, st2) ∧
      newLocal ops s lcs los (F.space.localized loc.start loc.stop) st2 = (.ok LF, st3) ∧
      localOptimize ops sett LF s st3 = (.ok (), ls, st4) ∧
      (optimizeLocation ops sett F loc s st).2.1 = ls := by
  fun_cases optimizeLocation ops sett F loc s st
  any_goals exact Or.inl rfl
  -- the witnesses are what the matches bound on the way there
  exact Or.inr ⟨_, _, _, _, _, _, _, _, _, _, ‹_›, ‹_›, ‹_›, ‹_›, ‹_›, rfl⟩

theorem optimizeLocation_inv (Q : Seq → Prop) (ops : SpecOps σ K) (sett : Settings) (F : Frame σ)
    (hcl : ∀ a b : Int, Closed Q (F.space.localized a b)) (loc : Loc) (s : Seq) (st : St σ K) (hs : Q s) :
    Q (optimizeLocation ops sett F loc s st).2.1 := by
  rcases optimizeLocation_seq ops sett F loc s st with h | ⟨_, _, _, _, LF, _, _, st3, ls, st4, _, _, _, hnl, hopt, h⟩
  · rw [h]; exact hs
  · have key := localOptimize_inv Q ops sett LF s st3 (newLocal_space hnl ▸ hcl _ _) hs
    rw [hopt] at key
    rw [h]; exact key

/-- the problem's length and every hard nucleotide restriction: each choice of the mutation space holds one of its
    variants -/
def InSp (cl : List Choice) (n : Nat) (s : Seq) : Prop :=
  s.length = n ∧ ∀ c ∈ cl, c.seg s ∈ c.variants

/-- `sp`: any sub-space whose multi-choices are choices of the space.  An edited choice holds one of its variants; any
    other choice is disjoint from the edited ones, hence unchanged -/
theorem closed_inSp (cl : List Choice) (n : Nat) (sp : Space) (hfit : ChoicesFit n cl)
    (hsub : ∀ c ∈ sp.multichoices, c ∈ cl) (hmc : ChoicesFit n sp.multichoices) :
    Closed (InSp cl n) sp := by
  refine closed_of_edit _ n sp hmc (fun _ hs => hs.1) ?_
  rintro s r hs ⟨hl, chosen, hch, hout⟩
  refine ⟨hl.trans hs.1, fun c hc => ?_⟩
  by_cases hcm : c ∈ chosen
  · exact (hch c hcm).2
  · rw [seg_congr c r s (fun i hi1 hi2 => hout i (fun d hd => ?_))]
    · exact hs.2 c hc
    · have := choicesFit_disjoint hfit hc (hsub d (hch d hd).1) (fun h => hcm (h ▸ hd))
      omega

/-! ### the property, for well-formed spaces -/

/-- `fit` is a theorem for constructed spaces (`C04.from_optimization_problem_fits`); `localFit` is a hypothesis
    (checked on every space the correspondence runs build) — it would follow from `fit`, the choices list of a
    localization being a sublist of the space's, but that is not proved -/
structure SpaceWF (sp : Space) (n : Nat) : Prop where
  fit : ChoicesFit n sp.choicesList
  localFit : ∀ a b : Int, ChoicesFit n (sp.localized a b).multichoices

theorem env_inSp (ops : SpecOps σ K) (F : Frame σ) (n : Nat) (hwf : SpaceWF F.space n)
    (hh : ∀ c h, ops.heuristic c = some h → ∀ view k, InSp F.space.choicesList n view.seq →
      InSp F.space.choicesList n (h view k).1) :
    Env (InSp F.space.choicesList n) ops F id where
  localClosed a b := closed_inSp _ n _ hwf.fit (localized_multi_sub F.space a b) (hwf.localFit a b)
  heuristicOk := hh
  replaceOk _ h := h

/-- **`resolve_constraints()`**: whatever the outcome, length and hard restrictions are kept -/
theorem resolve_keeps_restrictions (ops : SpecOps σ K) (sett : Settings) (F : Frame σ) (n : Nat) (s : Seq) (st : St σ K)
    (hwf : SpaceWF F.space n)
    (hh : ∀ c h, ops.heuristic c = some h → ∀ view k, InSp F.space.choicesList n view.seq →
      InSp F.space.choicesList n (h view k).1)
    (hs : InSp F.space.choicesList n s) :
    InSp F.space.choicesList n (resolveConstraints ops sett F s st).2.1 :=
  resolveConstraints_inv _ ops sett F (tryExtension_inv _ ops sett id F (env_inSp ops F n hwf hh)) s st hs

/-- **`optimize()`**: whatever the outcome, length and hard restrictions are kept -/
theorem optimize_keeps_restrictions (ops : SpecOps σ K) (sett : Settings) (F : Frame σ) (n : Nat) (s : Seq) (st : St σ K)
    (hwf : SpaceWF F.space n)
    (hh : ∀ c h, ops.heuristic c = some h → ∀ view k, InSp F.space.choicesList n view.seq →
      InSp F.space.choicesList n (h view k).1)
    (hs : InSp F.space.choicesList n s) :
    InSp F.space.choicesList n (optimize ops sett F s st).2.1 :=
  optimize_inv _ ops sett F (optimizeLocation_inv _ ops sett F (env_inSp ops F n hwf hh).localClosed) s st hs

/-- what a direct call of a search on the unlocalized space needs -/
theorem closed_self (sp : Space) (n : Nat) (hfit : ChoicesFit n sp.choicesList) :
    Closed (InSp sp.choicesList n) sp :=
  closed_inSp _ n sp hfit (fun _ hc => (mem_multichoices.1 hc).1) (multichoices_choicesFit hfit)

/-- **direct searches** (`resolveLocally` dispatches to the exhaustive or the random constraint search): whatever the
    outcome, length and hard restrictions are kept -/
theorem direct_searches_keep_restrictions (ops : SpecOps σ K) (sett : Settings) (F : Frame σ) (n : Nat) (s : Seq)
    (st : St σ K) (hfit : ChoicesFit n F.space.choicesList) (hs : InSp F.space.choicesList n s) :
    InSp F.space.choicesList n (resolveExhaustive ops F s st).2.1 ∧
    InSp F.space.choicesList n (resolveLocally ops sett F s st).2.1 ∧
    InSp F.space.choicesList n (optimizeExhaustive ops F s st).2.1 ∧
    InSp F.space.choicesList n (optimizeRandom ops sett F s st).2.1 :=
  ⟨resolveExhaustive_inv _ ops F s st (closed_self _ n hfit) hs,
   resolveLocally_inv _ ops sett F s st (closed_self _ n hfit) hs,
   optimizeExhaustive_inv _ ops F s st (closed_self _ n hfit) hs,
   optimizeRandom_inv _ ops sett F s st (closed_self _ n hfit) hs⟩

/-- the state after a failure is a valid input again: the same theorems apply to it -/
theorem resolvable_again (ops : SpecOps σ K) (sett : Settings) (F : Frame σ) (n : Nat) (s : Seq) (st st2 : St σ K)
    (hwf : SpaceWF F.space n)
    (hh : ∀ c h, ops.heuristic c = some h → ∀ view k, InSp F.space.choicesList n view.seq →
      InSp F.space.choicesList n (h view k).1)
    (hs : InSp F.space.choicesList n s) :
    InSp F.space.choicesList n
      (resolveConstraints ops sett F (resolveConstraints ops sett F s st).2.1 st2).2.1 :=
  resolve_keeps_restrictions ops sett F n _ st2 hwf hh (resolve_keeps_restrictions ops sett F n s st hwf hh hs)

/-! ### errors of the exhaustive constraint search are exceptions of a specification -/

theorem exhaustiveTest_err {ops : SpecOps σ K} {F : Frame σ} {focus} {v : Seq} {st st' : St σ K} {e : Err}
    (h : exhaustiveTest ops F focus v st = (.error e, st')) : ∃ n, e = .fault n := by
  revert h
  fun_cases exhaustiveTest ops F focus v st with
  | case1 =>
    rename_i hev
    rintro ⟨⟩
    exact evalAt_err hev
  | case2 | case4 => exact allPass_err
  | case3 => nofun

theorem exhaustiveLoop_err {ops : SpecOps σ K} {F : Frame σ} {focus} {vs : List Seq} {cur t : Seq} {st st' : St σ K}
    {e : Err} (h : exhaustiveLoop ops F focus vs cur st = (.error e, t, st')) : ∃ n, e = .fault n := by
  revert h
  fun_induction exhaustiveLoop ops F focus vs cur st with
  | case1 | case3 => nofun
  | case2 =>
    rename_i ht
    rintro ⟨⟩
    exact exhaustiveTest_err ht
  | case4 =>
    rename_i ih
    exact ih

/-- **a failed exhaustive constraint search restores exactly the sequence it started from** — for arbitrary
    specifications: `NoSolutionError` can only come from the end of the enumeration -/
theorem exhaustive_fail_restores (ops : SpecOps σ K) (F : Frame σ) (s t : Seq) (st st' : St σ K) (w : String)
    (h : resolveExhaustive ops F s st = (.error (.noSolution w), t, st')) : t = s := by
  revert h
  fun_cases resolveExhaustive ops F s st with
  | case1 => exact fun h => (Prod.mk.inj (Prod.mk.inj h).2).1.symm
  | case2 =>
    rename_i hl
    rintro ⟨⟩
    exact nomatch exhaustiveLoop_err hl
  | case3 => nofun
  | case4 =>
    rintro ⟨⟩
    rfl

/-! ### non-vacuity: the hypotheses hold on a concrete space and localization -/
example : ChoicesFit 4 C15.exSpace.choicesList := by
  simp [C15.exSpace, Space.ofIndex, Space.choicesList, Space.dedupConsecutive, ChoicesFit]
example : ChoicesFit 4 (C15.exSpace.localized 1 4).multichoices := by
  simp [C15.exSpace, Space.ofIndex, Space.localized, Space.multichoices, Space.choicesList,
    Space.dedupConsecutive, pySlice, pyIndex, ChoicesFit]
example : InSp C15.exSpace.choicesList 4 "ATAC".toList := by
  simp [InSp, C15.exSpace, Space.ofIndex, Space.choicesList, Space.dedupConsecutive, Choice.seg]

end Dna.C12
