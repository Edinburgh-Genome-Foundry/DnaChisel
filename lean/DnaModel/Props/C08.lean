/-
C08 — a constraint that passes locally after a local edit passes globally.

For the model of the built-ins (Model/Builtin.lean):
* second clause — if localizing to a window yields nothing, no edit inside the window changes the evaluation
  (`localized_none_unchanged`, all region classes): a region specification only reads its own location (`evaluate_local`);
* first clause (`SoundAt`) — one windowed argument (`soundAt_of_units`): a class passes iff every unit of its location
  (position, codon, window of `w` nucleotides, possible occurrence) satisfies a predicate of the unit's own window
  (`*_passes_iff`); a unit that misses the edit is unchanged, a unit that meets it is a unit of the localized
  specification (`*_localized_eq` / `*_localized_cover`; both in Proofs/BuiltinEval).  Proved for AvoidChanges,
  EnforceSequence, AvoidStopCodons, EnforceTranslation, windowed EnforceGCContent (forward / unstranded) and AvoidPattern
  (IUPAC, forward); trivially for classes that return themselves or `None`;
* `localSound_of_soundAt`, `builtin_optimize_preserves_feasible`: the hypothesis of `C02.optimize_preserves_feasible`,
  closed for the classes `Proven`.
Start-codon policies, codon objectives, reverse strand, k-mers, hairpins: correspondence + law oracle.
-/
import DnaModel.Proofs.BuiltinEval
import DnaModel.Props.C11
import DnaModel.Props.C18
import DnaModel.Props.C15
import DnaModel.Props.C02
namespace Dna.C08
open Dna BSpec

/-! ### locality -/

/-- `t` is `s` after an edit confined to the window `[wa, wb)` -/
def AgreeOutside (wa wb : Int) (s t : Seq) : Prop :=
  s.length = t.length ∧ ∀ i : Nat, ((i : Int) < wa ∨ wb ≤ (i : Int)) → s[i]? = t[i]?

theorem pySlice_unchanged (l : Loc) (wa wb : Int) (s t : Seq) (hag : AgreeOutside wa wb s t)
    (hl0 : 0 ≤ l.start) (hl1 : 0 ≤ l.stop) (hdis : l.stop ≤ wa ∨ wb ≤ l.start) :
    pySlice s l.start l.stop = pySlice t l.start l.stop :=
  pySlice_congr s t _ _ hl0 hl1 fun i h1 h2 => hag.2 i (by omega)

theorem extract_unchanged (l : Loc) (wa wb : Int) (s t : Seq) (hag : AgreeOutside wa wb s t)
    (hl0 : 0 ≤ l.start) (hl1 : 0 ≤ l.stop) (hdis : l.stop ≤ wa ∨ wb ≤ l.start) : l.extract s = l.extract t := by
  simp only [Loc.extract, pySlice_unchanged l wa wb s t hag hl0 hl1 hdis]

/-- the location a region specification reads; `none` for the classes that read several locations or the whole
    sequence (terminal GC, length bounds, k-mers) and for AvoidChanges / EnforceChanges given by an index list -/
def regionOf {K : Type} : BSpec K → Option Loc
  | .avoidPattern _ l => some l
  | .patternOccurence _ _ l => some l
  | .gc _ _ _ l => some l
  | .translation _ _ _ l => some l
  | .stopCodons _ l => some l
  | .avoidChanges _ _ (.loc l) => some l
  | .enforceChanges _ _ _ _ _ (.loc l) => some l
  | .enforceSequence _ l => some l
  | .enforceChoice _ l => some l
  | .rareCodons _ _ l => some l
  | .cai _ _ _ l => some l
  | .hairpins _ _ l => some l
  | .rca _ _ _ _ l => some l
  | _ => none

theorem findMatches_unchanged (p : Pattern) (l : Loc) (s t : Seq)
    (hst : l.strand = 1 ∨ l.strand = -1 ∨ l.strand = 0)
    (h : pySlice s l.start l.stop = pySlice t l.start l.stop) : p.findMatches s l = p.findMatches t l := by
  simp only [Pattern.findMatches, Pattern.findForward, Pattern.findReverse, h]
  rcases hst with h1 | h1 | h1 <;> simp [h1]

/-- **locality**: a region specification only reads its own location -/
theorem evaluate_local {K : Type} [NumK K] (b : BSpec K) (l : Loc) (hb : regionOf b = some l) (s t : Seq)
    (hst : l.strand = 1 ∨ l.strand = -1 ∨ l.strand = 0)
    (h : pySlice s l.start l.stop = pySlice t l.start l.stop) : b.evaluate s = b.evaluate t := by
  have hext : l.extract s = l.extract t := by simp only [Loc.extract, h]
  have hfm : ∀ p : Pattern, p.findMatches s l = p.findMatches t l := fun p => findMatches_unchanged p l s t hst h
  cases b <;> simp only [regionOf, Option.some.injEq, reduceCtorEq] at hb
  case avoidChanges me tg sc =>
    cases sc with
    | loc l' => simp only [Option.some.injEq] at hb; subst hb; simp only [evaluate, scopeExtract, hext]
    | indices l' idx => simp at hb
  case enforceChanges mi am ap mp rf sc =>
    cases sc with
    | loc l' => simp only [Option.some.injEq] at hb; subst hb; simp only [evaluate, scopeExtract, hext]
    | indices l' idx => simp at hb
  -- the other classes of `regionOf` read the sequence through `l.extract` or `findMatches … l` only
  all_goals
    subst hb
    simp only [evaluate, evaluateHairpins, hext, hfm]

/-! ### second clause: a localization that yields nothing -/

theorem overlap_ext_of_overlap (l w : Loc) (n : Int) (right : Bool) (hn : 0 ≤ n) (hl : l.Nonempty) (hw : w.Nonempty)
    (hw0 : 0 ≤ w.start) (h : l.overlap w ≠ none) : l.overlap (w.extended n 0 Option.none true right) ≠ none := by
  have hne : (w.extended n 0 Option.none true right).Nonempty := by
    simp only [Loc.Nonempty, Loc.extended] at *
    cases right <;> simp <;> omega
  rw [Ne, C18.overlap_eq_none_iff_disjoint l _ hl hne]
  rw [Ne, C18.overlap_eq_none_iff_disjoint l w hl hw] at h
  simp only [Loc.extended] at *
  cases right <;> simp <;> omega

theorem localized_none_disjoint {K : Type} [NumK K] (b : BSpec K) (l w : Loc) (rh : Option Bool)
    (hb : regionOf b = some l) (hl : l.Nonempty) (hw : w.Nonempty) (hw0 : 0 ≤ w.start)
    (hsize : ∀ p l', b = .avoidPattern p l' → 1 ≤ p.size)
    (hwin : ∀ mi ma k l', b = .gc mi ma (some k) l' → 1 ≤ k)
    (h : b.localized w rh = .none) : l.overlap w = none := by
  -- with an overlap `ov`, every class returns something: itself or a new specification
  cases hov : l.overlap w with
  | none => rfl
  | some ov =>
    exfalso
    cases b <;> simp only [regionOf, Option.some.injEq, reduceCtorEq] at hb
    case avoidPattern p l' => subst hb; simp only [localized, hov] at h; split at h <;> cases h
    case patternOccurence p o l' => subst hb; simp only [localized, hov] at h; split at h <;> cases h
    case gc mi ma wd l' =>
      subst hb
      cases wd with
      | none => cases h
      | some k =>
        -- the only other `None`: the extended window misses the location, impossible when the window meets it
        simp only [localized, hov] at h
        split at h
        · cases h
        · rename_i hnone
          exact overlap_ext_of_overlap l' w ((k : Int) - 1) (rh.getD true) (by have := hwin mi ma k l' rfl; omega) hl hw hw0
            (by rw [hov]; simp) hnone
    case avoidChanges me tg sc =>
      cases sc <;> simp only [Option.some.injEq, reduceCtorEq] at hb
      subst hb; simp only [localized, hov] at h; split at h <;> cases h
    case enforceChanges mi am ap mp rf sc =>
      cases sc <;> simp only [Option.some.injEq, reduceCtorEq] at hb
      subst hb; simp only [localized, hov] at h; split at h <;> cases h
    case enforceSequence sq l' => subst hb; simp only [localized, hov] at h; split at h <;> cases h
    -- the other classes return a new specification (EnforceChoice: itself) without a further test
    all_goals
      subst hb
      simp only [localized, hov] at h
      cases h

/-- **C08, second clause**: if localizing `S` to `W` yields nothing, an edit confined to `W` does not change `S`'s
    evaluation at all (score, pass flag and breach locations) — every modelled region specification -/
theorem localized_none_unchanged {K : Type} [NumK K] (b : BSpec K) (l w : Loc) (rh : Option Bool) (s t : Seq)
    (hb : regionOf b = some l) (hl : l.Nonempty) (hl0 : 0 ≤ l.start) (hw : w.Nonempty) (hw0 : 0 ≤ w.start)
    (hst : l.strand = 1 ∨ l.strand = -1 ∨ l.strand = 0)
    (hsize : ∀ p l', b = .avoidPattern p l' → 1 ≤ p.size)
    (hwin : ∀ mi ma k l', b = .gc mi ma (some k) l' → 1 ≤ k)
    (hnone : b.localized w rh = .none)
    (hag : AgreeOutside w.start w.stop s t) : b.evaluate s = b.evaluate t := by
  have hov := localized_none_disjoint b l w rh hb hl hw hw0 hsize hwin hnone
  have hdis := (C18.overlap_eq_none_iff_disjoint l w hl hw).1 hov
  exact evaluate_local b l hb s t hst
    (pySlice_unchanged l _ _ s t hag hl0 (by simp only [Loc.Nonempty] at hl; omega) hdis)

/-! ### the first clause, as one statement -/

/-- **C08, first clause, at one window**: `b` passes on `s`; `t` differs from `s` only inside `w`; what `b.localized w`
    returns passes on `t` (nothing to check when it returns `None`).  Then `b` passes on `t`. -/
def SoundAt (b : BSpec Rat) (w : Loc) (rh : Option Bool) (s t : Seq) : Prop :=
  PassesB b s → AgreeOutside w.start w.stop s t →
    (match b.localized w rh with
     | .none => True
     | .same => PassesB b t
     | .new b' => PassesB b' t
     | .typeError => False) →
    PassesB b t

/-- `localized` returns the specification itself: EnforceChoice, non-windowed GC, EnforcePatternOccurence, budgeted
    AvoidChanges, partial EnforceChanges; terminal GC with both ends and length bounds when `with_righthand` is not passed
    (`.typeError` otherwise) -/
theorem soundAt_of_same (b : BSpec Rat) (w : Loc) (rh : Option Bool) (s t : Seq)
    (h : b.localized w rh = .same) : SoundAt b w rh s t := by
  intro _ _ hl
  rw [h] at hl
  exact hl

/-- by the second clause — every region class -/
theorem soundAt_of_none (b : BSpec Rat) (l w : Loc) (rh : Option Bool) (s t : Seq)
    (hb : regionOf b = some l) (hl : l.Nonempty) (hl0 : 0 ≤ l.start) (hw : w.Nonempty) (hw0 : 0 ≤ w.start)
    (hst : l.strand = 1 ∨ l.strand = -1 ∨ l.strand = 0)
    (hsize : ∀ p l', b = .avoidPattern p l' → 1 ≤ p.size)
    (hwin : ∀ mi ma k l', b = .gc mi ma (some k) l' → 1 ≤ k)
    (hnone : b.localized w rh = .none) : SoundAt b w rh s t := by
  intro hp hag _
  rwa [PassesB, ← localized_none_unchanged b l w rh s t hb hl hl0 hw hw0 hst hsize hwin hnone hag]

/-! ### the windowed argument, once -/

theorem win_eq_of_agree (s t : Seq) (wa wb : Int) (hag : AgreeOutside wa wb s t) (j k : Nat)
    (h : ((j + k : Nat) : Int) ≤ wa ∨ wb ≤ (j : Int)) : win s j k = win t j k :=
  win_congr s t j k fun i hi => hag.2 _ (by omega)

theorem eq_of_agree_empty (wa wb : Int) (s t : Seq) (hag : AgreeOutside wa wb s t) (hw : ¬ wa < wb) : s = t :=
  List.ext_getElem? (fun i => hag.2 i (by omega))

/-- an empty window admits no edit -/
theorem soundAt_of_empty {b : BSpec Rat} {wa wb : Nat} {ws : Int} {rh : Option Bool} {s t : Seq} (hw : ¬ wa < wb) :
    SoundAt b ⟨wa, wb, ws⟩ rh s t := by
  intro hp hag _
  rw [← eq_of_agree_empty wa wb s t hag (by omega)]; exact hp

/-- what `SoundAt` assumes of the localized specification -/
def LocalPasses (b : BSpec Rat) (w : Loc) (rh : Option Bool) (t : Seq) : Prop :=
  match b.localized w rh with
  | .none => True
  | .same => PassesB b t
  | .new b' => PassesB b' t
  | .typeError => False

theorem LocalPasses.of_new {b b' : BSpec Rat} {w : Loc} {rh : Option Bool} {t : Seq}
    (hl : LocalPasses b w rh t) (h : b.localized w rh = .new b') : PassesB b' t := by
  rw [LocalPasses, h] at hl; exact hl

/-- `hchar`: passing characterised by a sequence-independent condition `C` and the units `j ∈ U`, each read through its
    window `[start j, start j + len j)`; `hloc`: what the localized specification says about a unit that meets the edit
    window — the only per-class work -/
theorem soundAt_of_units {ι : Type} {b : BSpec Rat} {wa wb : Nat} {ws : Int} {rh : Option Bool} {s t : Seq}
    (C : Prop) (U : ι → Prop) (start len : ι → Nat) (Q : ι → Seq → Prop)
    (hchar : ∀ u : Seq, u.length = s.length → (PassesB b u ↔ C ∧ ∀ j, U j → Q j (win u (start j) (len j))))
    (hloc : C → t.length = s.length → wa < wb → LocalPasses b ⟨wa, wb, ws⟩ rh t →
      ∀ j, U j → wa < start j + len j → start j < wb → Q j (win t (start j) (len j))) :
    SoundAt b ⟨wa, wb, ws⟩ rh s t := by
  intro hp hag hl
  by_cases hw : wa < wb
  case neg => exact soundAt_of_empty hw hp hag hl
  rw [hchar s rfl] at hp
  rw [hchar t hag.1.symm]
  refine ⟨hp.1, fun j hj => ?_⟩
  by_cases hin : wa < start j + len j ∧ start j < wb
  · exact hloc hp.1 hag.1.symm hw hl j hj hin.1 hin.2
  · rw [← win_eq_of_agree s t wa wb hag _ _ (by omega)]
    exact hp.2 j hj

theorem pointwise_sound (P : Nat → Char → Prop) (a b wa wb : Nat) (s t : Seq) (hag : AgreeOutside wa wb s t)
    (hglobal : ∀ i, a ≤ i → i < b → ∀ c, s[i]? = some c → P i c)
    (hlocal : ∀ i, max a wa ≤ i → i < min b wb → ∀ c, t[i]? = some c → P i c) :
    ∀ i, a ≤ i → i < b → ∀ c, t[i]? = some c → P i c := by
  intro i h1 h2 c hc
  by_cases hin : wa ≤ i ∧ i < wb
  · exact hlocal i (by omega) (by omega) c hc
  · exact hglobal i h1 h2 c ((hag.2 i (by omega)).trans hc)

/-! ### the first clause, class by class -/

/-- **C08, first clause, for AvoidChanges** (no edit budget; forward or unstranded location `[a,b)`): the localization
    the code builds (location `[a,b) ∩ [wa,wb)`, target sliced accordingly) is sound -/
theorem avoidChanges_soundAt (target : Seq) (a b wa wb : Nat) (st ws : Int) (hst : st ≠ -1) (s t : Seq)
    (hab : a ≤ b) (hb : b ≤ s.length) (hlen : target.length = b - a) (rh : Option Bool) :
    SoundAt (.avoidChanges 0 target (.loc ⟨a, b, st⟩)) ⟨wa, wb, ws⟩ rh s t := by
  apply soundAt_of_units True (fun p => a ≤ p ∧ p < b) (fun p => p) (fun _ => 1) (fun p u => u[0]? = target[p - a]?)
  · intro u hu
    rw [true_and]
    exact avoidChanges_passes_iff_abs hst hab (by omega) hlen
  · intro _ hlt hw hl p hp h1 h2
    have hov : max a wa < min b wb := by omega
    have := (avoidChanges_passes_iff_abs hst (by omega) (by omega) (length_win_of_le _ (by omega))).1
      (hl.of_new (avoidChanges_localized_eq target a b wa wb st ws rh hov)) p (by omega)
    -- the sliced target read at `p - max a wa` is the target read at `p - a`
    rwa [getElem?_win_of_lt target (by omega), show max a wa - a + (p - max a wa) = p - a by omega] at this

/-- **C08, first clause, for EnforceSequence** (forward or unstranded location `[a,b)`): the localization the code
    builds (location `[a,b) ∩ [wa,wb)`, IUPAC string sliced accordingly) is sound -/
theorem enforceSequence_soundAt (sq : Seq) (a b wa wb : Nat) (st ws : Int) (hst : st ≠ -1) (s t : Seq)
    (hab : a ≤ b) (hb : b ≤ s.length) :
    SoundAt (.enforceSequence sq ⟨a, b, st⟩) ⟨wa, wb, ws⟩ none s t := by
  apply soundAt_of_units (b - a ≤ sq.length) (fun p => a ≤ p ∧ p < b) (fun p => p) (fun _ => 1)
    (fun p u => ∃ n letter set, u[0]? = some n ∧ sq[p - a]? = some letter ∧ lookup letter Gen.iupac = some set ∧
      set.contains n = true)
  · intro u hu
    exact enforceSequence_passes_iff_abs hst hab (by omega)
  · intro hC hlt hw hl p hp h1 h2
    have hov : max a wa < min b wb := by omega
    have := ((enforceSequence_passes_iff_abs hst (by omega) (by omega)).1
      (hl.of_new (enforceSequence_localized_eq sq a b wa wb st ws hst hov))).2 p (by omega)
    -- the sliced string read at `p - max a wa` is the string read at `p - a`
    rwa [getElem?_win_of_lt sq (by omega), show max a wa - a + (p - max a wa) = p - a by omega] at this

/-- **C08, first clause, for AvoidStopCodons** (whole codons `[a, a+3m)`, forward or unstranded, any genetic table):
    the localization the code builds — the window snapped outwards to codon boundaries with the `int(x/3)` arithmetic
    of `CodonSpecification.localized` — is sound -/
theorem stopCodons_soundAt (tbl : Nat) (tb : Gen.CodonTable) (ht : tableOf tbl = some tb) (a m wa wb : Nat) (st ws : Int)
    (hst : st ≠ -1) (s t : Seq) (hb : a + 3 * m ≤ s.length) (rh : Option Bool) :
    SoundAt (.stopCodons tbl ⟨a, (a + 3 * m : Nat), st⟩) ⟨wa, wb, ws⟩ rh s t := by
  apply soundAt_of_units True (fun j => j < m) (fun j => a + 3 * j) (fun _ => 3) (fun _ => CodonOk tb)
  · intro u hu
    rw [true_and]
    exact stopCodons_passes_iff ht hst (by omega)
  · intro _ hlt hw hl j hj h1 h2
    obtain ⟨sc, e', hloc, he, hcov⟩ := stopCodons_localized_cover tbl a m wa wb st ws hst rh (by omega)
    obtain ⟨h3, h4⟩ := hcov j hj h1 h2
    have := (stopCodons_passes_iff ht hst (by omega)).1 (hl.of_new hloc) (j - sc) (by omega)
    rwa [show a + 3 * sc + 3 * (j - sc) = a + 3 * j by omega] at this

/-- **C08, first clause, for EnforceTranslation** (no start-codon policy; whole codons `[a, a+3m)`, forward or
    unstranded; any genetic table): the localized specification — codon-snapped window, protein sliced to the codons
    `[sc, ec)` — is sound -/
theorem translation_soundAt (tbl : Nat) (tb : Gen.CodonTable) (ht : tableOf tbl = some tb) (tr : Seq) (a m wa wb : Nat)
    (st ws : Int) (hst : st ≠ -1) (s t : Seq) (hb : a + 3 * m ≤ s.length) (rh : Option Bool) :
    SoundAt (.translation tbl .none tr ⟨a, (a + 3 * m : Nat), st⟩) ⟨wa, wb, ws⟩ rh s t := by
  apply soundAt_of_units (m ≤ tr.length) (fun j => j < m) (fun j => a + 3 * j) (fun _ => 3)
    (fun j c => ∃ x, translateCodon tb c = some x ∧ tr[j]? = some x)
  · intro u hu
    exact translation_passes_iff tbl tb ht tr a m st hst u (by omega)
  · intro _ hlt hw hl j hj h1 h2
    obtain ⟨sc, ec, e', hloc, he, hec, hcov⟩ := translation_localized_cover tbl tr a m wa wb st ws hst rh (by omega)
    obtain ⟨h3, h4⟩ := hcov j hj h1 h2
    have := ((translation_passes_iff tbl tb ht _ _ _ st hst t (by omega)).1 (hl.of_new hloc)).2 (j - sc) (by omega)
    -- codon `j - sc` of the localized frame is codon `j`; the protein was sliced to the codons `[sc, ec)`
    rwa [show a + 3 * sc + 3 * (j - sc) = a + 3 * j by omega, getElem?_win_of_lt tr (by omega),
      show sc + (j - sc) = j by omega] at this

/-- **C08, first clause, for windowed EnforceGCContent** (any bounds, window `w ≥ 1`, forward or unstranded location
    `[a,b)`): the localization the code builds (location cut to the window extended by `w - 1` on both sides) is sound -/
theorem gc_soundAt (mini maxi : Rat) (w : Nat) (hw1 : 1 ≤ w) (a b wa wb : Nat) (st ws : Int) (hst : st ≠ -1) (s t : Seq)
    (hab : a ≤ b) (hb : b ≤ s.length) :
    SoundAt (.gc mini maxi (some w) ⟨a, b, st⟩) ⟨wa, wb, ws⟩ none s t := by
  apply soundAt_of_units True (fun p => a ≤ p ∧ p + w ≤ b) (fun p => p) (fun _ => w)
    (fun _ u => mini ≤ frac (K := Rat) (gcCount u, w) ∧ frac (K := Rat) (gcCount u, w) ≤ maxi)
  · intro u hu
    rw [true_and]
    exact gc_passes_iff_abs hw1 hst hab (by omega)    -- the `Q` above is `GcOk` unfolded
  · intro _ hlt hw hl p hp h1 h2
    have hov : max a wa < min b wb := by omega
    exact (gc_passes_iff_abs hw1 hst (by omega) (by omega)).1
      (hl.of_new (gc_localized_eq mini maxi w hw1 a b wa wb st ws hov)) p (by omega)

-- `hw`: the statement carries it, the proof does not need it
set_option linter.unusedVariables false in
/-- **C08, first clause, for AvoidPattern on the forward strand**, in terms of `findForward` (IUPAC pattern `q` of size
    `k`, location `[a,b)`, default localization): no occurrence in the location before an edit confined to `[wa,wb)`, and
    none in `[a,b) ∩ [wa-(k-1), wb+(k-1))` after it, means none in the whole location after it -/
theorem avoidPattern_forward_sound (q : Seq) (hq : q ≠ []) (s t : Seq) (a b wa wb : Nat)
    (hab : a ≤ b) (hb : b ≤ s.length) (hw : wa < wb) (hag : AgreeOutside wa wb s t)
    (hglobal : (Pattern.dna q).findForward s ⟨a, b, 1⟩ = [])
    (hlocal : (Pattern.dna q).findForward t ⟨(max a (wa - (q.length - 1)) : Nat), (min b (wb + (q.length - 1)) : Nat), 1⟩ = [])
    (hne : max a (wa - (q.length - 1)) ≤ min b (wb + (q.length - 1))) :
    (Pattern.dna q).findForward t ⟨a, b, 1⟩ = [] := by
  have hbt : b ≤ t.length := by rw [← hag.1]; exact hb
  rw [findForward_nil_iff q hq _ _ _ 1 (by omega) (by omega)] at hglobal hlocal ⊢
  intro j hj
  by_cases hin : wa < j + q.length ∧ j < wb
  · -- the occurrence meets the edit: it lies inside the localized location
    exact hlocal j (by omega)
  · -- it misses the edit: the same occurrence existed before
    rw [← win_eq_of_agree s t wa wb hag j q.length (by omega)]
    exact hglobal j hj

/-- **C08, first clause, for AvoidPattern** (IUPAC pattern of any size on the forward strand of `[a,b)`) -/
theorem avoidPattern_soundAt (q : Seq) (hq : q ≠ []) (a b wa wb : Nat) (s t : Seq) (hab : a ≤ b) (hb : b ≤ s.length) :
    SoundAt (.avoidPattern (.dna q) ⟨a, b, 1⟩) ⟨wa, wb, 0⟩ none s t := by
  have hk : 1 ≤ q.length := List.length_pos_iff.2 hq
  apply soundAt_of_units True (fun j => a ≤ j ∧ j + q.length ≤ b) (fun j => j) (fun _ => q.length)
    (fun _ u => ¬ C11.windowMatch q u)
  · intro u hu
    rw [true_and]
    exact avoidPattern_passes_iff_abs hq hab (by omega)
  · intro _ hlt hw hl j hj h1 h2
    have hl := hl.of_new (avoidPattern_localized_eq q a b wa wb hk (by omega))
    exact (avoidPattern_passes_iff_abs hq (by omega) (by omega)).1 hl j (by omega)

/-! ### from the built-in model to the solver's hypothesis

`C02.optimize_preserves_feasible` asks for `C02.LocalSound` of every constraint the solver evaluates.  As solver objects
the built-in specifications are already initialised: `initialized_on_problem` is the identity (`iniB`). -/

/-- `localized(location)` without `with_righthand`: `.typeError` is then never returned (`localized_ne_typeError`), so
    sending it to `none` loses nothing -/
def lzB (b : BSpec Rat) (w : Loc) (_ : Seq) : Option (BSpec Rat) :=
  match b.localized w none with
  | .none => none
  | .same => some b
  | .new b' => some b'
  | .typeError => none

def iniB (b : BSpec Rat) (_ : Seq) (_ : Role) : BSpec Rat := b

theorem agreeOutside_of_agreeOut (a b : Nat) (s t : Seq) (h : C02.AgreeOut a b s t) : AgreeOutside a b s t := by
  refine ⟨h.1.symm, ?_⟩
  intro i hi
  exact (h.2 i (by omega)).symm

/-- `.typeError` comes only from the branches `if rh.isSome`: `with_righthand` passed to a class that does not take it -/
theorem localized_ne_typeError {K : Type} [NumK K] (b : BSpec K) (w : Loc) : b.localized w none ≠ .typeError := by
  cases b <;> simp only [localized, Option.isSome_none, Bool.false_eq_true, if_false] <;> (repeat' split) <;> simp

/-- **the bridge**: soundness of the model's localization at every window of a sequence of length `n` is the hypothesis
    `C02.LocalSound` of the whole-problem theorem -/
theorem localSound_of_soundAt (n : Nat) (b : BSpec Rat)
    (hty : ∀ w, b.localized w none ≠ .typeError)
    (h : ∀ (a c : Nat) (s t : Seq), s.length = n → SoundAt b ⟨a, c, 0⟩ none s t) :
    C02.LocalSound n evB lzB iniB b := by
  intro a c s t hn hp hag hl
  rw [evB_passes_iff] at hp ⊢
  apply h a c s t hn hp (agreeOutside_of_agreeOut a c s t hag)
  cases hloc : b.localized ⟨a, c, 0⟩ none with
  | none => trivial
  | same => exact (evB_passes_iff b t).1 (hl b (by simp only [lzB, hloc]))
  | new b' => exact (evB_passes_iff b' t).1 (hl b' (by simp only [lzB, hloc]))
  | typeError => exact absurd hloc (hty _)

/-- the classes of `soundAt_of_same`, except EnforcePatternOccurence (next lemma) -/
theorem same_localSound (n : Nat) (b : BSpec Rat) (h : ∀ w, b.localized w none = .same) :
    C02.LocalSound n evB lzB iniB b :=
  localSound_of_soundAt n b (localized_ne_typeError b) fun _ _ s t _ => soundAt_of_same b _ none s t (h _)

/-- itself or `None`: EnforcePatternOccurence (`patternOccurence_localized`) -/
theorem sameOrNone_localSound (n : Nat) (b : BSpec Rat) (l : Loc) (hb : regionOf b = some l) (hl : l.Nonempty)
    (hl0 : 0 ≤ l.start) (hst : l.strand = 1 ∨ l.strand = -1 ∨ l.strand = 0)
    (hsize : ∀ p l', b = .avoidPattern p l' → 1 ≤ p.size) (hwin : ∀ mi ma k l', b = .gc mi ma (some k) l' → 1 ≤ k)
    (h : ∀ w, b.localized w none = .same ∨ b.localized w none = .none) :
    C02.LocalSound n evB lzB iniB b := by
  refine localSound_of_soundAt n b (localized_ne_typeError b) fun wa wb s t _ => ?_
  rcases h ⟨wa, wb, 0⟩ with h1 | h1
  · exact soundAt_of_same b _ none s t h1
  · by_cases hw : wa < wb
    · exact soundAt_of_none b l ⟨wa, wb, 0⟩ none s t hb hl hl0 (by simp only [Loc.Nonempty]; omega) (by simp) hst hsize hwin h1
    · exact soundAt_of_empty hw

example (n : Nat) (choices : List Seq) (l : Loc) : C02.LocalSound n evB lzB iniB (.enforceChoice choices l) :=
  same_localSound n _ (fun _ => rfl)

/-! ### the closed statement for problems made of built-in constraints

The specifications of the model seen as solver objects (`bOps`) are pure and total, and the classes treated above are
`LocalSound`.  Object identity plays no role in `optimize()`: the `BEq` instance below exists only because the solver
record asks for one. -/

-- always false.  The two attribute lines take it out of instance search and put it back for the rest of THIS file only:
-- an importing file finds it as an ordinary global instance (`attribute [local instance]` there, as in C09, changes nothing)
instance instBEqBSpecRat : BEq (BSpec Rat) := ⟨fun _ _ => false⟩
attribute [-instance] instBEqBSpecRat
attribute [local instance] instBEqBSpecRat

set_option linter.unusedVariables false in
/-- `optimize()` localizes without `with_righthand` (only constraint resolution passes it), so neither `acceptsRighthand`
    nor the `.typeError` branch of `localize` is reached in the theorems below -/
def bOps : SpecOps (BSpec Rat) Rat where
  evaluate b s _ := .ok (evB b s)
  localize b l rh s _ := .ok (match b.localized l rh with
    | .none => none
    | .same => some (b, .same)
    | .new b' => some (b', .fresh)
    | .typeError => none)
  initOn b s r _ := .ok (iniB b s r, .same)
  enforced _ := false
  priority _ := 0
  best _ := none
  boost _ := 1
  passive _ := false
  acceptsRighthand _ := true
  heuristic _ := none

theorem bOps_pureEval : Pure.PureEval bOps evB := fun _ _ _ => rfl

theorem bOps_pureObj : C02.PureObj bOps lzB iniB where
  loc c l s k := by
    refine ⟨_, rfl, ?_⟩
    simp only [lzB]
    cases c.localized l none <;> rfl
  init c s r k := ⟨.same, rfl⟩

/-- the constraint classes whose localization soundness is a theorem of this file -/
inductive Proven (n : Nat) : BSpec Rat → Prop where
  | avoidChanges (target : Seq) (a b : Nat) (st : Int) (hst : st ≠ -1) (hab : a ≤ b) (hb : b ≤ n)
      (hlen : target.length = b - a) : Proven n (.avoidChanges 0 target (.loc ⟨a, b, st⟩))
  | enforceSequence (sq : Seq) (a b : Nat) (st : Int) (hst : st ≠ -1) (hab : a ≤ b) (hb : b ≤ n) :
      Proven n (.enforceSequence sq ⟨a, b, st⟩)
  | stopCodons (tbl : Nat) (tb : Gen.CodonTable) (ht : tableOf tbl = some tb) (a m : Nat) (st : Int) (hst : st ≠ -1)
      (hb : a + 3 * m ≤ n) : Proven n (.stopCodons tbl ⟨a, (a + 3 * m : Nat), st⟩)
  | translation (tbl : Nat) (tb : Gen.CodonTable) (ht : tableOf tbl = some tb) (tr : Seq) (a m : Nat) (st : Int)
      (hst : st ≠ -1) (hb : a + 3 * m ≤ n) : Proven n (.translation tbl .none tr ⟨a, (a + 3 * m : Nat), st⟩)
  | gcWindowed (mini maxi : Rat) (w : Nat) (hw1 : 1 ≤ w) (a b : Nat) (st : Int) (hst : st ≠ -1) (hab : a ≤ b) (hb : b ≤ n) :
      Proven n (.gc mini maxi (some w) ⟨a, b, st⟩)
  | avoidPattern (q : Seq) (hq : q ≠ []) (a b : Nat) (hab : a ≤ b) (hb : b ≤ n) : Proven n (.avoidPattern (.dna q) ⟨a, b, 1⟩)
  | patternOccurence (pat : Pattern) (occ : Int) (l : Loc) (hl : l.Nonempty) (hl0 : 0 ≤ l.start)
      (hst : l.strand = 1 ∨ l.strand = -1 ∨ l.strand = 0) : Proven n (.patternOccurence pat occ l)
  | returnsSelf (b : BSpec Rat) (h : ∀ w, b.localized w none = .same) : Proven n b

theorem proven_localSound (n : Nat) (b : BSpec Rat) (h : Proven n b) : C02.LocalSound n evB lzB iniB b := by
  cases h with
  | avoidChanges target a b st hst hab hb hlen =>
    exact localSound_of_soundAt n _ (localized_ne_typeError _) fun wa wb s t hn =>
      avoidChanges_soundAt target a b wa wb st 0 hst s t hab (by omega) hlen none
  | enforceSequence sq a b st hst hab hb =>
    exact localSound_of_soundAt n _ (localized_ne_typeError _) fun wa wb s t hn =>
      enforceSequence_soundAt sq a b wa wb st 0 hst s t hab (by omega)
  | stopCodons tbl tb ht a m st hst hb =>
    exact localSound_of_soundAt n _ (localized_ne_typeError _) fun wa wb s t hn =>
      stopCodons_soundAt tbl tb ht a m wa wb st 0 hst s t (by omega) none
  | translation tbl tb ht tr a m st hst hb =>
    exact localSound_of_soundAt n _ (localized_ne_typeError _) fun wa wb s t hn =>
      translation_soundAt tbl tb ht tr a m wa wb st 0 hst s t (by omega) none
  | gcWindowed mini maxi w hw1 a b st hst hab hb =>
    exact localSound_of_soundAt n _ (localized_ne_typeError _) fun wa wb s t hn =>
      gc_soundAt mini maxi w hw1 a b wa wb st 0 hst s t hab (by omega)
  | avoidPattern q hq a b hab hb =>
    exact localSound_of_soundAt n _ (localized_ne_typeError _) fun wa wb s t hn =>
      avoidPattern_soundAt q hq a b wa wb s t hab (by omega)
  | patternOccurence pat occ l hl hl0 hst =>
    exact sameOrNone_localSound n _ l rfl hl hl0 hst (by intro p l' h; cases h) (by intro mi ma k l' h; cases h)
      (patternOccurence_localized pat occ l)
  | returnsSelf b h => exact same_localSound n b h

/-- **C02, closed for the built-in model**: a problem whose (evaluated) constraints are AvoidChanges / EnforceSequence /
    AvoidStopCodons / EnforceTranslation / windowed EnforceGCContent regions (forward or unstranded), AvoidPattern (IUPAC,
    forward), EnforcePatternOccurence and any specifications that localize to themselves (EnforceChoice, global GC bounds,
    edit budgets, …), with *any* objectives, on a well-formed mutation space: if all of them pass before `optimize()`, all
    of them pass after it — for every setting and every random tape, whether `optimize()` returns or raises. -/
theorem builtin_optimize_preserves_feasible (sett : Settings) (F : Frame (BSpec Rat)) (n : Nat)
    (hfit : ∀ a b : Int, C15.ChoicesFit n (F.space.localized a b).multichoices)
    (hcls : ∀ c ∈ F.constraints, Proven n c) (s : Seq) (st : St (BSpec Rat) Rat) (hn : s.length = n)
    (hs : Pure.feasible bOps evB F s = true) :
    Pure.feasible bOps evB F (Solver.optimize bOps sett F s st).2.1 = true :=
  C02.optimize_preserves_feasible bOps evB lzB iniB sett F n
    { pureEval := bOps_pureEval
      pureObj := bOps_pureObj
      localFit := hfit
      sound := fun c hc _ => proven_localSound n c (hcls c hc)
      enforcedKept := fun _ _ _ _ _ _ _ => rfl } s st hn hs

/-! ### non-vacuity -/
example : Proven 10 (.avoidChanges 0 "TG".toList (.loc ⟨1, 3, 1⟩)) :=
  .avoidChanges _ 1 3 1 (by decide) (by decide) (by decide) (by decide)

example : PassesB (.avoidChanges 0 "TG".toList (.loc ⟨1, 3, 1⟩)) "ATGC".toList :=
  (avoidChanges_passes_iff "TG".toList 1 3 1 (by decide) "ATGC".toList (by decide) (by decide) (by decide)).2 (by decide)

example : AgreeOutside 2 4 "ATGCA".toList "ATTTA".toList := by
  -- literals first: the kernel is very slow at unfolding `String.toList` on a literal
  simp only [String.reduceToList]
  refine ⟨rfl, ?_⟩
  intro i hi
  match i, hi with
  | 0, _ => rfl
  | 1, _ => rfl
  | 2, h => omega
  | 3, h => omega
  | 4, _ => rfl
  | n + 5, _ => simp

end Dna.C08
