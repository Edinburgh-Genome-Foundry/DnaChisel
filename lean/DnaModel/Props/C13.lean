/-
C13 — circular problems: a successful solve holds across the sequence origin.
Theorems about Model/Circular.lean (on top of Model/Solver.lean).
-/
import DnaModel.Model.Circular
import DnaModel.Props.C01
import DnaModel.Props.C12
set_option linter.unusedSectionVars false
namespace Dna.C13
open Dna Solver Circular
variable {σ K : Type} [BEq σ] [Score K]

/-! ### the three-copy view reads the circular sequence -/

theorem triple_length (s : Seq) : (triple s).length = 3 * s.length := by
  simp only [triple, List.length_append]
  omega

theorem triple_getElem? (s : Seq) (i : Nat) (hi : i < 3 * s.length) : (triple s)[i]? = s[i % s.length]? := by
  rw [triple, List.append_assoc]
  -- `i` lies in the first copy, or is `|s| + j` with `j` in the second, or `|s| + (|s| + k)` with `k` in the third
  rcases Nat.lt_or_ge i s.length with h | h
  · rw [List.getElem?_append_left h, Nat.mod_eq_of_lt h]
  · obtain ⟨j, rfl⟩ := Nat.exists_eq_add_of_le h
    rw [List.getElem?_append_right h, Nat.add_sub_cancel_left, Nat.add_mod_left]
    rcases Nat.lt_or_ge j s.length with h | h
    · rw [List.getElem?_append_left h, Nat.mod_eq_of_lt h]
    · obtain ⟨k, rfl⟩ := Nat.exists_eq_add_of_le h
      rw [List.getElem?_append_right h, Nat.add_sub_cancel_left, Nat.add_mod_left, Nat.mod_eq_of_lt (by omega)]

/-- the linear reading `sequence + sequence[:m]` used to look for something across the origin is a contiguous part of
    the three-copy sequence: whatever occurs across the junction occurs in the view -/
theorem cyclic_infix (s : Seq) (m : Nat) : (s ++ s.take m) <:+: triple s := by
  refine ⟨[], s.drop m ++ s, ?_⟩
  simp only [triple, List.nil_append, List.append_assoc]
  rw [← List.append_assoc (s.take m), List.take_append_drop]

theorem occurs_across_origin (s w : Seq) (m : Nat) (h : w <:+: s ++ s.take m) : w <:+: triple s :=
  List.IsInfix.trans h (cyclic_infix s m)

/-- every rotation is a window of the view: the central copy sees the origin on both sides -/
theorem rotation_infix (s : Seq) (p : Nat) : (s.drop p ++ s.take p) <:+: triple s := by
  refine ⟨s.take p, s.drop p ++ s, ?_⟩
  simp only [triple, List.append_assoc]
  rw [← List.append_assoc (s.take p) (s.drop p), ← List.append_assoc (s.take p) (s.drop p), List.take_append_drop]

/-! ### `_replace_sequence`: the majority rule -/

theorem loony_left (x y : Char) : loony y x x = y := by
  simp only [loony]; split <;> simp_all
theorem loony_mid (x y : Char) : loony x y x = y := by
  simp only [loony]; split <;> simp_all
theorem loony_right (x y : Char) : loony x x y = y := by simp [loony]

theorem consensus_length (t : Seq) : (consensus t).length = t.length / 3 := by
  simp only [consensus, List.length_map, List.length_range]

theorem majority_length (t : Seq) (h : 3 ∣ t.length) : (majority t).length = t.length := by
  rw [majority, triple_length, consensus_length, Nat.mul_div_cancel' h]

/-- an edit confined to one copy (here described position-wise: at every residue class at most one of the three
    copies differs from `s`) is mirrored: the result is the consistent view of the edited circular sequence -/
theorem consensus_edit (s t u : Seq) (ht : t.length = 3 * s.length) (hu : u.length = s.length)
    (h : ∀ i, i < s.length →
      (t[i]? = u[i]? ∧ t[i + s.length]? = s[i]? ∧ t[i + 2 * s.length]? = s[i]?) ∨
      (t[i]? = s[i]? ∧ t[i + s.length]? = u[i]? ∧ t[i + 2 * s.length]? = s[i]?) ∨
      (t[i]? = s[i]? ∧ t[i + s.length]? = s[i]? ∧ t[i + 2 * s.length]? = u[i]?)) :
    consensus t = u := by
  have hL : t.length / 3 = s.length := by rw [ht, Nat.mul_div_cancel_left _ (by decide)]
  refine List.ext_getElem ((consensus_length t).trans (hL.trans hu.symm)) fun i _ hi => ?_
  simp only [consensus, hL, List.getElem_map, List.getElem_range, List.getD_eq_getElem?_getD]
  rcases h i (hu ▸ hi) with ⟨a, b, c⟩ | ⟨a, b, c⟩ | ⟨a, b, c⟩ <;>
    simp only [a, b, c, List.getElem?_eq_getElem hi, Option.getD_some, loony_left, loony_mid, loony_right]

/-- the case of no edit -/
theorem consensus_triple (s : Seq) : consensus (triple s) = s :=
  consensus_edit s (triple s) s (triple_length s) rfl fun i hi => Or.inl (by
    rw [triple_getElem? s i (by omega), triple_getElem? s (i + s.length) (by omega),
      triple_getElem? s (i + 2 * s.length) (by omega), Nat.add_mod_right, Nat.add_mul_mod_self_right,
      Nat.mod_eq_of_lt hi]
    exact ⟨rfl, rfl, rfl⟩)

theorem majority_triple (s : Seq) : majority (triple s) = triple s := by simp [majority, consensus_triple]

theorem middle_triple (s : Seq) : middle (triple s) s.length = s := by
  simp [middle, triple]

theorem middle_length (t : Seq) (L : Nat) (h : t.length = 3 * L) : (middle t L).length = L := by
  rw [middle, List.length_take, List.length_drop, h]
  omega

/-! ### the final check: return ⇒ every constraint of the view passes -/

theorem evalList_all_pass {ops : SpecOps σ K} {s : Seq} {cs : List σ} {st st' : St σ K} {evs : List (Eval K)}
    (h : evalList ops s cs st = (.ok evs, st')) (hall : evs.all (·.passes) = true) :
    ∀ c ∈ cs, C01.PassesAt ops c s := by
  revert h
  fun_induction evalList ops s cs st generalizing evs with
  | case1 => exact fun _ _ hc => nomatch hc
  | case2 | case3 => nofun
  | case4 =>
    rename_i hev _ _ hl ih
    rintro ⟨⟩
    rw [List.all_cons, Bool.and_eq_true] at hall
    rintro d (_ | ⟨_, hd⟩)
    · exact ⟨_, _, evalAt_ok hev, hall.1⟩
    · exact ih hall.2 hl d hd

theorem circFinalCheck_ok {ops : SpecOps σ K} {views : Nat → Option (View σ)} {k : Nat} {s : Seq} {st st' : St σ K}
    (h : circFinalCheck ops views k s st = (.ok (), st')) :
    ∃ v F t st1, buildView views k s st = (.ok (v, F, t), st1) ∧ ∀ c ∈ v.constraints, C01.PassesAt ops c t := by
  revert h
  fun_cases circFinalCheck ops views k s st with
  | case1 | case2 | case4 | case5 | case6 => nofun
  | case3 =>
    rename_i hb _ _ hev hall
    exact fun _ => ⟨_, _, _, _, hb, evalList_all_pass hev hall⟩

/-- **C13, main clause.**  If `CircularDnaOptimizationProblem.resolve_constraints()` returns, then a fresh
    three-copy view of the returned sequence was built and *every* constraint of that view — the whole-sequence
    ones stretched over the three copies, the located ones in each copy, the hard ones included — was evaluated on
    it and passed.  For arbitrary specifications, settings and random tapes. -/
theorem circ_resolve_ok (ops : SpecOps σ K) (sett : Settings) (views : Nat → Option (View σ)) (s s' : Seq) (st st' : St σ K)
    (h : circResolve ops sett views s st = (.ok (), s', st')) :
    ∃ v F t, ∃ st0 st1 : St σ K, buildView views 1 s' st0 = (.ok (v, F, t), st1) ∧ ∀ c ∈ v.constraints, C01.PassesAt ops c t := by
  -- `s'` is reverted with `h`, so that it can be replaced by the middle third, which the function binds by `let`
  revert s'
  fun_cases circResolve ops sett views s st with
  | case1 | case2 => nofun
  | case3 =>
    -- the result is that of the final check on the middle third
    rename_i hfc
    rintro _ ⟨⟩
    obtain ⟨v, F, t, st1, hv⟩ := circFinalCheck_ok hfc
    exact ⟨v, F, t, _, st1, hv⟩

/-- what a successful `buildView` built.  (When `3 × sequence` already lies in the space — periodic restrictions, cf.
    the correspondence runs — `C15.constrainSequence_noop` gives `t = 3 × sequence`, and "passes" is then "passes across
    the origin" in the sense of `cyclic_infix`; that step is not stated here.) -/
theorem buildView_seq (views : Nat → Option (View σ)) (k : Nat) (s : Seq) (st st1 : St σ K) (v : View σ) (F : Frame σ) (t : Seq)
    (h : buildView views k s st = (.ok (v, F, t), st1)) :
    ∃ sp tape', Space.fromRestrictions (triple s) v.restrs = .ok sp ∧ sp.constrainSequence (triple s) st.tape = .ok (t, tape') ∧
      F.space = sp ∧ F.constraints = v.constraints ∧ views k = some v := by
  revert h
  fun_cases buildView views k s st with
  | case1 | case2 | case3 => nofun
  | case4 =>
    rename_i hv _ hsp _ _ hc
    rintro ⟨⟩
    exact ⟨_, _, hsp, hc, rfl, rfl, hv⟩

/-! ### the failure side -/

theorem evalList_err {ops : SpecOps σ K} {s : Seq} {cs : List σ} {st st' : St σ K} {e : Err}
    (h : evalList ops s cs st = (.error e, st')) : ∃ n, e = .fault n := by
  revert h
  fun_induction evalList ops s cs st with
  | case1 | case4 => nofun
  | case2 =>
    rename_i hev
    rintro ⟨⟩
    exact evalAt_err hev
  | case3 =>
    rename_i hl ih
    rintro ⟨⟩
    exact ih hl

/-- errors of view construction -/
def ViewErr (e : Err) : Prop := e = .tableMiss "view" ∨ ∃ se, e = Err.ofSpace se

theorem buildView_err {views : Nat → Option (View σ)} {k : Nat} {s : Seq} {st st' : St σ K} {e : Err}
    (h : buildView views k s st = (.error e, st')) : ViewErr e := by
  revert h
  fun_cases buildView views k s st with
  | case1 =>
    rintro ⟨⟩
    exact .inl rfl
  | case2 | case3 =>
    rintro ⟨⟩
    exact .inr ⟨_, rfl⟩
  | case4 => nofun

/-- fails only with `NoSolutionError`, an exception thrown by a specification, or while a view is being constructed -/
theorem circFinalCheck_err (ops : SpecOps σ K) (views : Nat → Option (View σ)) (k : Nat) (s : Seq) (st st' : St σ K) (e : Err)
    (h : circFinalCheck ops views k s st = (.error e, st')) :
    (∃ w, e = .noSolution w) ∨ (∃ n, e = .fault n) ∨ ViewErr e := by
  revert h
  fun_cases circFinalCheck ops views k s st with
  | case1 | case4 =>
    rename_i hb
    rintro ⟨⟩
    exact .inr (.inr (buildView_err hb))
  | case2 | case5 =>
    rename_i hev
    rintro ⟨⟩
    exact .inr (.inl (evalList_err hev))
  | case3 => nofun
  | case6 =>
    rintro ⟨⟩
    exact .inl ⟨_, rfl⟩

/-! ### length -/

theorem closed_length (n : Nat) (sp : Space) (hmc : C15.ChoicesFit n sp.multichoices) :
    C12.Closed (fun t => t.length = n) sp :=
  C12.closed_of_edit _ n sp hmc (fun _ hs => hs) (fun _ _ hs hr => hr.1.trans hs)

/-- **the sequence keeps its length**: whatever the outcome of the central-copy loop, the view stays `3L` long
    (edits keep the length, heuristics are assumed to, the majority rule does), so the middle third has length `L` -/
theorem circ_keeps_length (ops : SpecOps σ K) (sett : Settings) (F : Frame σ) (cs : List σ) (L : Nat) (t : Seq) (st : St σ K)
    (hfit : ∀ a b : Int, C15.ChoicesFit (3 * L) (F.space.localized a b).multichoices)
    (hh : ∀ c h, ops.heuristic c = some h → ∀ view k, view.seq.length = 3 * L → (h view k).1.length = 3 * L)
    (ht : t.length = 3 * L) :
    (middle (resolveEach ops sett majority F cs t st).2.1 L).length = L := by
  apply middle_length
  have env : C12.Env (fun t => t.length = 3 * L) ops F majority :=
    { localClosed := fun a b => closed_length (3 * L) _ (hfit a b)
      heuristicOk := hh
      replaceOk := fun u hu => (majority_length u ⟨L, hu⟩).trans hu }
  exact C12.resolveEach_inv _ ops sett majority F (C12.tryExtension_inv _ ops sett majority F env) cs t st ht

/-! ### non-vacuity: the majority rule and the junction on concrete sequences -/
example : majority "ATGCATGGATGC".toList = "ATGGATGGATGG".toList := by
  simp only [String.reduceToList]; decide
example : consensus (triple "GATTACA".toList) = "GATTACA".toList := consensus_triple _
example : ("CA".toList ++ "GA".toList) <:+: ("GATTACA".toList ++ "GATTACA".toList.take 3) := ⟨"GATTA".toList, "T".toList, by simp only [String.reduceToList]; decide⟩

end Dna.C13
