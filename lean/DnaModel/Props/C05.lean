/-
C05 — results are a function of the inputs and the numpy seed only.
In the code the variants of a mutation choice are a Python `set`, whose iteration order depends on the interpreter's
string-hash seed.  In the model a set is a list in *some* order; every consumer that draws a random number or fixes a
visiting order gives the same result for every permutation of the variants, because it sorts first.
-/
import DnaModel.Model.Space
import DnaModel.Props.C15
namespace Dna.C05
open Dna

theorem seqLt_irrefl (a : Seq) : seqLt a a = false := C15.seqLt_irrefl a

/-- **`sorted(variants)` does not depend on the set's iteration order** -/
theorem sortSeqs_canonical (l l' : List Seq) (h : l.Perm l') : sortSeqs l = sortSeqs l' := by
  apply List.Perm.eq_of_pairwise (le := fun a b => seqLe a b = true)
  · exact fun a b _ _ => C15.seqLe_antisymm a b
  · exact C15.sortSeqs_sorted l
  · exact C15.sortSeqs_sorted l'
  · exact (C15.sortSeqs_perm l).trans (h.trans (C15.sortSeqs_perm l').symm)

/-- the same choice: same segment, the same *set* of variants -/
def SameChoice (c c' : Choice) : Prop := c.start = c'.start ∧ c.stop = c'.stop ∧ c.variants.Perm c'.variants

theorem seg_same {c c' : Choice} (h : SameChoice c c') (s : Seq) : c.seg s = c'.seg s := by
  simp only [Choice.seg, h.1, h.2.1]

/-- **`MutationChoice.random_variant`**: the draw is made in `sorted(variants)` -/
theorem randomVariant_order_free {c c' : Choice} (h : SameChoice c c') (s : Seq) (t : Tape) :
    c.randomVariant s t = c'.randomVariant s t := by
  simp only [Choice.randomVariant, seg_same h s]
  rw [sortSeqs_canonical _ _ (h.2.2.filter _)]

/-- **the visiting order of `all_variants`** is a function of the set of variants -/
theorem variantsByDistance_order_free {c c' : Choice} (h : SameChoice c c') (s : Seq) :
    Space.variantsByDistance c s = Space.variantsByDistance c' s := by
  simp only [Space.variantsByDistance, seg_same h s, sortSeqs_canonical _ _ h.2.2]

/-- **`constrain_sequence`**: for choices given as sets in any order, the constrained sequence and the random numbers
    consumed are the same (where it draws, it draws in `sorted(variants)`) -/
theorem constrainLoop_order_free (cs cs' : List Choice) (h : List.Forall₂ SameChoice cs cs') (orig acc : Seq) (t : Tape) :
    Space.constrainLoop cs orig acc t = Space.constrainLoop cs' orig acc t := by
  induction h generalizing acc t with
  | nil => rfl
  | @cons c c' r r' hc hrest ih =>
    obtain ⟨h1, h2, hp⟩ := hc
    unfold Space.constrainLoop
    rw [h1, h2]
    generalize c.variants = l at hp
    generalize c'.variants = l' at hp
    -- `constrainLoop` matches the variants as `[] | [v] | _`: permuted lists have the same one of these shapes
    match l, l', hp with
    | [], _, hp => rw [← hp.nil_eq]
    | [v], _, hp =>
      rw [List.perm_singleton.1 hp.symm]
      exact ih _ _
    | _ :: _ :: _, [], hp => nomatch hp.length_eq
    | _ :: _ :: _, [_], hp => nomatch hp.length_eq
    | _ :: _ :: _, _ :: _ :: _, hp =>
      simp only [hp.contains_eq, hp.length_eq, sortSeqs_canonical _ _ hp, ih]

theorem map_order_free {β : Type} {f : Choice → β} (hf : ∀ {c c'}, SameChoice c c' → f c = f c') {cs cs' : List Choice}
    (h : List.Forall₂ SameChoice cs cs') : cs.map f = cs'.map f := by
  rw [← List.forall₂_eq_eq_eq, List.forall₂_map_left_iff, List.forall₂_map_right_iff]
  exact h.imp fun _ _ => hf

/-- the size of the space (what decides between exhaustive and random search) only counts variants -/
theorem lengths_order_free (cs cs' : List Choice) (h : List.Forall₂ SameChoice cs cs') :
    cs.map (·.variants.length) = cs'.map (·.variants.length) :=
  map_order_free (fun hc => hc.2.2.length_eq) h

theorem randomVariants_order_free (cs cs' : List Choice) (h : List.Forall₂ SameChoice cs cs') (s : Seq) (t : Tape) :
    Space.randomVariants cs s t = Space.randomVariants cs' s t := by
  induction h generalizing t with
  | nil => rfl
  | cons hc _ ih => simp only [Space.randomVariants, randomVariant_order_free hc, hc.1, ih]

/-- **the enumeration of `all_variants`**: same slots (these maps are `C15.slots s cs`), hence by `C15.allVariants_eq`
    the same candidate sequences in the same order -/
theorem slots_order_free (cs cs' : List Choice) (h : List.Forall₂ SameChoice cs cs') (s : Seq) :
    cs.map (fun c => (Space.variantsByDistance c s).map (fun v => (c.start, v))) =
    cs'.map (fun c => (Space.variantsByDistance c s).map (fun v => (c.start, v))) :=
  map_order_free (fun hc => by rw [variantsByDistance_order_free hc, hc.1]) h

/-! non-vacuity -/
example : sortSeqs ["TA".toList, "AC".toList, "GG".toList] = sortSeqs ["GG".toList, "TA".toList, "AC".toList] :=
  sortSeqs_canonical _ _ (List.perm_append_comm (l₁ := [_, _]) (l₂ := [_]))

end Dna.C05
