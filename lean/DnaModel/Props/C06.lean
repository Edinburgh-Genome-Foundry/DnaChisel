/-
C06 — exhaustive searches are complete and exactly optimal over the mutation space.
The enumeration itself (`all_variants` = every member of the localized space exactly once, current sequence first) is
`C15.allVariants_enumerates`; here: what the two exhaustive searches do with it, for pure total specifications (`PureEval`).
-/
import DnaModel.Proofs.SolverPure
import DnaModel.Props.C15
set_option linter.unusedSectionVars false
namespace Dna.C06
open Dna Solver Dna.Pure
variable {σ K : Type} [BEq σ] [Score K]

/-- `exhaustiveTest` for pure specifications -/
def accepts (ops : SpecOps σ K) (ev : σ → Seq → Eval K) (F : Frame σ) (focus : Option (σ × List σ)) (v : Seq) : Bool :=
  match focus with
  | some (f, others) => (ev f v).passes && others.all (fun c => (ev c v).passes)
  | none => feasible ops ev F v

theorem exhaustiveTest_pure {ops : SpecOps σ K} {ev} (hp : PureEval ops ev) (F : Frame σ) (focus) (v : Seq) (st : St σ K) :
    ∃ st', exhaustiveTest ops F focus v st = (.ok (accepts ops ev F focus v), st') ∧ SameObs st st' := by
  cases focus with
  | none => exact allConstraintsPass_pure hp F v st
  | some fo =>
    obtain ⟨f, others⟩ := fo
    simp only [exhaustiveTest, evalAt_pure hp, accepts]
    cases hf : (ev f v).passes with
    | false => exact ⟨{ st with nEval := st.nEval + 1 }, rfl, rfl, rfl, rfl⟩
    | true => exact allPass_pure hp v others { st with nEval := st.nEval + 1 }

theorem exhaustiveLoop_pure {ops : SpecOps σ K} {ev} (hp : PureEval ops ev) (F : Frame σ) (focus) (vs : List Seq)
    (cur : Seq) (st : St σ K) :
    ∃ cur' st', st'.tape = st.tape ∧
      exhaustiveLoop ops F focus vs cur st =
        (match vs.find? (accepts ops ev F focus) with
         | some v => (.ok true, v, st')
         | none => (.ok false, cur', st')) := by
  induction vs generalizing cur st with
  | nil => exact ⟨cur, st, rfl, rfl⟩
  | cons v vs ih =>
    simp only [exhaustiveLoop, List.find?_cons]
    obtain ⟨st1, htest, o1⟩ := exhaustiveTest_pure hp F focus v (logSeq v st)
    rw [htest]
    cases ha : accepts ops ev F focus v with
    | true => exact ⟨v, st1, o1.1, rfl⟩
    | false =>
      obtain ⟨cur', st2, ht2, h2⟩ := ih v st1
      exact ⟨cur', st2, ht2.trans o1.1, h2⟩

/-- **`resolve_constraints_by_exhaustive_search()` is complete**: over the enumeration `vs` of the mutation space it
    returns with an accepted candidate whenever one exists, and otherwise raises `NoSolutionError` after restoring
    exactly the sequence it started from; it draws no random number.
    (`hvs`, here and below, only names the enumeration: it always exists, `C15.allVariants_eq`.) -/
theorem resolveExhaustive_complete (ops : SpecOps σ K) (ev) (hp : PureEval ops ev) (F : Frame σ) (s : Seq)
    (st : St σ K) (vs : List Seq) (hvs : F.space.allVariants s = .ok vs) :
    let acc := accepts ops ev F (getFocus st F)
    ((∃ v ∈ vs, acc v = true) →
      ∃ t st', resolveExhaustive ops F s st = (.ok (), t, st') ∧ t ∈ vs ∧ acc t = true ∧ st'.tape = st.tape) ∧
    ((∀ v ∈ vs, acc v = false) →
      ∃ w st', resolveExhaustive ops F s st = (.error (.noSolution w), s, st') ∧ st'.tape = st.tape) := by
  intro acc
  obtain ⟨cur', st', ht, hloop⟩ := exhaustiveLoop_pure hp F (getFocus st F) vs s st
  simp only [resolveExhaustive, hvs, hloop]
  constructor
  · rintro ⟨v, hv, hav⟩
    cases hf : vs.find? acc with
    | none => exact absurd hav (List.find?_eq_none.1 hf v hv)
    | some t => exact ⟨t, st', rfl, List.mem_of_find?_eq_some hf, List.find?_some hf, ht⟩
  · intro hnone
    have hf : vs.find? acc = none := List.find?_eq_none.2 (fun v hv => ne_true_of_eq_false (hnone v hv))
    refine ⟨"Exhaustive search failed to satisfy all constraints.", logSeq s st', ?_, ht⟩
    rw [hf]

section optimal
variable [LawfulScore K]

/-- where the exhaustive optimisation can end, given the running best `b0` and the candidates `vs` still to come: on `b0`
    or on a feasible candidate, never below `b0`, and — when the declared best total `bp` bounds every feasible
    candidate, which is what justifies the early exit — below no feasible candidate -/
structure BestOf (ops : SpecOps σ K) (ev : σ → Seq → Eval K) (F : Frame σ) (bp : Option K) (vs : List Seq)
    (b0 best : Seq) : Prop where
  mem : best = b0 ∨ best ∈ vs ∧ feasible ops ev F best = true
  notLower : Score.lt (total ops ev F best) (total ops ev F b0) = false
  max : (∀ b, bp = some b → ∀ v ∈ vs, feasible ops ev F v = true → Score.le (total ops ev F v) b = true) →
    ∀ v ∈ vs, feasible ops ev F v = true → Score.lt (total ops ev F best) (total ops ev F v) = false

namespace BestOf
variable {ops : SpecOps σ K} {ev : σ → Seq → Eval K} {F : Frame σ} {bp : Option K} {v : Seq} {vs : List Seq}
  {b0 best : Seq}

theorem feasible_best (h : BestOf ops ev F bp vs b0 best) (h0 : feasible ops ev F b0 = true) :
    feasible ops ev F best = true := by
  rcases h.mem with rfl | m
  exacts [h0, m.2]

theorem nil : BestOf ops ev F bp [] b0 b0 :=
  ⟨.inl rfl, LawfulScore.lt_irrefl _, fun _ _ hv => nomatch hv⟩

/-- a candidate that does not become the running best: infeasible, or not above it -/
theorem skip (h : BestOf ops ev F bp vs b0 best)
    (hv : feasible ops ev F v = true → Score.lt (total ops ev F b0) (total ops ev F v) = false) :
    BestOf ops ev F bp (v :: vs) b0 best where
  mem := h.mem.imp_right fun m => ⟨List.mem_cons_of_mem _ m.1, m.2⟩
  notLower := h.notLower
  max hbp w hw hfw := by
    rcases List.mem_cons.1 hw with rfl | hw
    · exact notLower_trans (hv hfw) h.notLower
    · exact h.max (fun b hb x hx => hbp b hb x (List.mem_cons_of_mem _ hx)) w hw hfw

theorem take (h : BestOf ops ev F bp vs v best) (hf : feasible ops ev F v = true)
    (hlt : Score.lt (total ops ev F b0) (total ops ev F v) = true) : BestOf ops ev F bp (v :: vs) b0 best where
  mem := .inr <| by
    rcases h.mem with rfl | ⟨m, hfb⟩
    · exact ⟨List.mem_cons_self, hf⟩
    · exact ⟨List.mem_cons_of_mem _ m, hfb⟩
  notLower := notLower_trans (notLower_of_lt hlt) h.notLower
  max hbp w hw hfw := by
    rcases List.mem_cons.1 hw with rfl | hw
    · exact h.notLower
    · exact h.max (fun b hb x hx => hbp b hb x (List.mem_cons_of_mem _ hx)) w hw hfw

/-- early exit: the declared best total is reached -/
theorem early (hf : feasible ops ev F v = true) (hlt : Score.lt (total ops ev F b0) (total ops ev F v) = true)
    (hrb : reachedBest bp (total ops ev F v) = true) : BestOf ops ev F bp (v :: vs) b0 v where
  mem := .inr ⟨List.mem_cons_self, hf⟩
  notLower := notLower_of_lt hlt
  max hbp w hw hfw := by
    cases bp with
    | none => cases hrb
    | some b =>
      exact notLower_trans ((LawfulScore.le_iff_not_lt _ _).1 (hbp b rfl w hw hfw)) ((LawfulScore.le_iff_not_lt _ _).1 hrb)

end BestOf

/-- the running best is entered with its own total as score, written into the call (`C02.optRandomLoop_spec` and
    `C03.optExhaustiveLoop_mono` state the same as a hypothesis `hsc`) -/
theorem optExhaustiveLoop_pure {ops : SpecOps σ K} {ev} (hp : PureEval ops ev) (F : Frame σ) (bp : Option K)
    (vs : List Seq) (bestSeq cur : Seq) (st : St σ K) :
    ∃ best cur' st', optExhaustiveLoop ops F bp vs (total ops ev F bestSeq) bestSeq cur st = (.ok best, cur', st') ∧
      st'.tape = st.tape ∧ BestOf ops ev F bp vs bestSeq best := by
  induction vs generalizing bestSeq cur st with
  | nil => exact ⟨bestSeq, cur, st, rfl, rfl, .nil⟩
  | cons v vs ih =>
    simp only [optExhaustiveLoop]
    obtain ⟨st1, h1, o1⟩ := allConstraintsPass_pure hp F v (logSeq v st)
    rw [h1]
    cases hf : feasible ops ev F v with
    | false =>
      obtain ⟨best, cur', st', h, ht, hb⟩ := ih bestSeq v st1
      exact ⟨best, cur', st', h, ht.trans o1.1, hb.skip (fun h => absurd h (ne_true_of_eq_false hf))⟩
    | true =>
      obtain ⟨st2, h2, o2⟩ := objectiveScoresSum_pure hp F v st1
      simp only [h2]
      have t2 : st2.tape = st.tape := (o1.trans' o2).1
      cases hlt : Score.lt (total ops ev F bestSeq) (total ops ev F v) with
      | false =>
        obtain ⟨best, cur', st', h, ht, hb⟩ := ih bestSeq v st2
        exact ⟨best, cur', st', h, ht.trans t2, hb.skip (fun _ => hlt)⟩
      | true =>
        cases hrb : reachedBest bp (total ops ev F v) with
        | true => exact ⟨v, v, st2, rfl, t2, .early hf hlt hrb⟩
        | false =>
          obtain ⟨best, cur', st', h, ht, hb⟩ := ih v v st2
          exact ⟨best, cur', st', h, ht.trans t2, hb.take hf hlt⟩

/-- maximality is a field of `BestOf` that still asks for the early-exit hypothesis, so that the other fields (feasible,
    not lower) serve C02 and C03 without it -/
theorem optimizeExhaustive_pure {ops : SpecOps σ K} {ev} (hp : PureEval ops ev) (F : Frame σ) (s : Seq)
    (st : St σ K) (vs : List Seq) (hvs : F.space.allVariants s = .ok vs) (hfeas : feasible ops ev F s = true) :
    ∃ t st', optimizeExhaustive ops F s st = (.ok (), t, st') ∧ st'.tape = st.tape ∧
      BestOf ops ev F (bestSum ops F.objectives) vs s t := by
  obtain ⟨st1, h1, o1⟩ := allConstraintsPass_pure hp F s st
  obtain ⟨st2, h2, o2⟩ := objectiveScoresSum_pure hp F s st1
  obtain ⟨best, cur', st3, h3, t3, hres⟩ :=
    optExhaustiveLoop_pure hp F (bestSum ops F.objectives) vs s s st2
  exact ⟨best, logSeq best st3, by simp only [optimizeExhaustive, h1, hfeas, h2, hvs, h3],
    t3.trans (o1.trans' o2).1, hres⟩

/-- **`optimize_by_exhaustive_search()` is exactly optimal**: starting from a feasible sequence it leaves a feasible
    sequence (the start or a member of the enumeration) whose boost-weighted total is not exceeded by any feasible
    member of the enumeration — provided no feasible member exceeds the declared best possible total (the hypothesis
    that justifies the early exit).  No random number is drawn. -/
theorem optimizeExhaustive_max (ops : SpecOps σ K) (ev) (hp : PureEval ops ev) (F : Frame σ) (s : Seq)
    (st : St σ K) (vs : List Seq) (hvs : F.space.allVariants s = .ok vs)
    (hfeas : feasible ops ev F s = true)
    (hbp : ∀ b, bestSum ops F.objectives = some b → ∀ v ∈ vs, feasible ops ev F v = true →
      Score.le (total ops ev F v) b = true) :
    ∃ t st', optimizeExhaustive ops F s st = (.ok (), t, st') ∧ st'.tape = st.tape ∧
      (t = s ∨ t ∈ vs) ∧ feasible ops ev F t = true ∧
      Score.lt (total ops ev F t) (total ops ev F s) = false ∧
      ∀ v ∈ vs, feasible ops ev F v = true → Score.lt (total ops ev F t) (total ops ev F v) = false := by
  obtain ⟨t, st', h, ht, hb⟩ := optimizeExhaustive_pure hp F s st vs hvs hfeas
  exact ⟨t, st', h, ht, hb.mem.imp_right And.left, hb.feasible_best hfeas, hb.notLower, hb.max hbp⟩

/-- an infeasible start is refused and left alone -/
theorem optimizeExhaustive_infeasible (ops : SpecOps σ K) (ev) (hp : PureEval ops ev) (F : Frame σ) (s : Seq)
    (st : St σ K) (hfeas : feasible ops ev F s = false) :
    ∃ w st', optimizeExhaustive ops F s st = (.error (.noSolution w), s, st') ∧ st'.tape = st.tape ∧ st'.trace = st.trace := by
  obtain ⟨st1, h1, o1⟩ := allConstraintsPass_pure hp F s st
  obtain ⟨r, st2, h2, o2⟩ := constraintsEvaluations_pure hp s F.constraints st1
  exact ⟨"Optimization can only be done when all constraints are verified.", st2,
    by simp only [optimizeExhaustive, h1, hfeas, h2], (o1.trans' o2).1, (o1.trans' o2).2.1⟩

end optimal

/-- the enumeration searched is the whole (localized) space: with the two bold theorems above, completeness /
    optimality *over the mutation space* -/
theorem searched_set_is_space (sp : Space) (s : Seq) (vs : List Seq)
    (hwf : C15.MCFits s.length sp.multichoices) (h : sp.allVariants s = .ok vs) (t : Seq) :
    t ∈ vs ↔ (t.length = s.length ∧ (∀ c ∈ sp.multichoices, c.seg t ∈ c.variants) ∧
      ∀ i, (∀ c ∈ sp.multichoices, ¬ (c.start ≤ i ∧ i < c.stop)) → t[i]? = s[i]?) :=
  (C15.allVariants_enumerates sp s vs hwf h).2.2.2 t

end Dna.C06
