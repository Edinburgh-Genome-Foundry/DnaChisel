/-
C14 — the solver does not touch what is already fine.
`constrain_sequence` minimality / idempotence is in C15 (`constrainSequence_spec`, `constrainSequence_noop`,
`constrainSequence_idem`); here: `resolve_constraints()` and `optimize()`.
-/
import DnaModel.Proofs.SolverPure
set_option linter.unusedSectionVars false
namespace Dna.C14
open Dna Solver Dna.Pure
variable {σ K : Type} [BEq σ] [Score K]

/-- what the property asks a call with nothing to do to leave alone: `tape` (no random number drawn) and `trace` (no
    sequence assigned).  The lemmas prove more, `Pure.SameObs` (only the call counters move): `resolve_noop_sameObs` is
    the form to build on, `resolve_noop` the statement of the property -/
def Untouched (st st' : St σ K) : Prop := st'.tape = st.tape ∧ st'.trace = st.trace

theorem Untouched.trans {a b c : St σ K} (h1 : Untouched a b) (h2 : Untouched b c) : Untouched a c :=
  ⟨h2.1.trans h1.1, h2.2.trans h1.2⟩

theorem Untouched.of_sameObs {a b : St σ K} (h : SameObs a b) : Untouched a b := ⟨h.1, h.2.1⟩

/-- for every call index `k`, where `C01.PassesAt` has some `k`: a hypothesis has to cover whichever call the solver
    will make, and `evaluate` may depend on the index -/
def AlwaysPasses (ops : SpecOps σ K) (c : σ) (s : Seq) : Prop :=
  ∀ k, ∃ e, ops.evaluate c s k = .ok e ∧ e.passes = true

theorem resolveConstraint_noop (ops : SpecOps σ K) (sett : Settings) (rs : Seq → Seq) (F : Frame σ) (c : σ)
    (s : Seq) (st : St σ K) (h : AlwaysPasses ops c s) :
    ∃ st', resolveConstraint ops sett rs F c s st = (.ok (), s, st') ∧ SameObs st st' := by
  obtain ⟨e, he, hp⟩ := h st.nEval
  exact ⟨{ st with nEval := st.nEval + 1 }, by simp only [resolveConstraint, evalAt_of_evaluate he, hp, if_true], rfl, rfl, rfl⟩

theorem resolveEach_noop (ops : SpecOps σ K) (sett : Settings) (rs : Seq → Seq) (F : Frame σ) (cs : List σ)
    (s : Seq) (st : St σ K) (h : ∀ c ∈ cs, AlwaysPasses ops c s) :
    ∃ st', resolveEach ops sett rs F cs s st = (.ok (), s, st') ∧ SameObs st st' := by
  induction cs generalizing st with
  | nil => exact ⟨st, rfl, .rfl' st⟩
  | cons c cs ih =>
    obtain ⟨st1, h1, u1⟩ := resolveConstraint_noop ops sett rs F c s st (h c List.mem_cons_self)
    obtain ⟨st2, h2, u2⟩ := ih st1 (fun d hd => h d (List.mem_cons_of_mem _ hd))
    exact ⟨st2, by simp only [resolveEach, h1, h2], u1.trans' u2⟩

theorem resolve_noop_sameObs (ops : SpecOps σ K) (sett : Settings) (F : Frame σ) (s : Seq) (st : St σ K)
    (h : ∀ c ∈ F.constraints, ops.enforced c = false → AlwaysPasses ops c s) :
    ∃ r st', resolveConstraints ops sett F s st = (r, s, st') ∧ SameObs st st' := by
  simp only [resolveConstraints]
  split
  · exact ⟨.ok (), st, rfl, .rfl' st⟩
  · have hall : ∀ c ∈ byPriority ops (F.constraints.filter (fun c => !ops.enforced c)), AlwaysPasses ops c s := by
      intro c hc
      obtain ⟨hc1, hc2⟩ := List.mem_filter.1 (List.mem_mergeSort.1 hc)
      exact h c hc1 (by simpa using hc2)
    obtain ⟨st1, h1, u1⟩ := resolveEach_noop ops sett id F _ s st hall
    rw [h1]
    exact ⟨_, _, rfl, u1.trans' (finalCheck_sameObs ops s F.constraints F.constraints st1)⟩

/-- **`resolve_constraints()` on a problem whose (non-enforced) constraints already pass changes nothing and draws no
    random number** — whatever the settings, for every tape; the sequence is returned unchanged even if the final check
    then fails on an enforced constraint -/
theorem resolve_noop (ops : SpecOps σ K) (sett : Settings) (F : Frame σ) (s : Seq) (st : St σ K)
    (h : ∀ c ∈ F.constraints, ops.enforced c = false → AlwaysPasses ops c s) :
    ∃ r st', resolveConstraints ops sett F s st = (r, s, st') ∧ Untouched st st' :=
  let ⟨r, st', h1, u⟩ := resolve_noop_sameObs ops sett F s st h
  ⟨r, st', h1, .of_sameObs u⟩

/-- repeating the call any number of times still changes nothing -/
theorem resolve_noop_iter (ops : SpecOps σ K) (sett : Settings) (F : Frame σ) (s : Seq) (n : Nat) (st : St σ K)
    (h : ∀ c ∈ F.constraints, ops.enforced c = false → AlwaysPasses ops c s) :
    ∃ st', (Nat.repeat (fun (p : Seq × St σ K) =>
        let r := resolveConstraints ops sett F p.1 p.2; (r.2.1, r.2.2)) n (s, st)) = (s, st') ∧ Untouched st st' := by
  induction n with
  | zero => exact ⟨st, rfl, rfl, rfl⟩
  | succ n ih =>
    obtain ⟨st1, h1, u1⟩ := ih
    obtain ⟨r, st2, h2, u2⟩ := resolve_noop ops sett F s st1 h
    exact ⟨st2, by simp only [Nat.repeat, h1, h2], u1.trans u2⟩

/-- at every call index, for the same reason as in `AlwaysPasses` -/
def AlwaysOptimal (ops : SpecOps σ K) (o : σ) (s : Seq) : Prop :=
  ∀ k, ∃ e b, ops.evaluate o s k = .ok e ∧ ops.best o = some b ∧ Score.eq e.score b = true

theorem optimizeObjective_noop (ops : SpecOps σ K) (sett : Settings) (F : Frame σ) (o : σ)
    (s : Seq) (st : St σ K) (h : AlwaysOptimal ops o s) :
    ∃ st', optimizeObjective ops sett F o s st = (.ok (), s, st') ∧ SameObs st st' := by
  obtain ⟨e, b, he, hb, heq⟩ := h st.nEval
  exact ⟨{ st with nEval := st.nEval + 1 },
    by simp only [optimizeObjective, evalAt_of_evaluate he, atBest, hb, heq, if_true], rfl, rfl, rfl⟩

theorem optimizeEach_noop (ops : SpecOps σ K) (sett : Settings) (F : Frame σ) (os : List σ)
    (s : Seq) (st : St σ K) (h : ∀ o ∈ os, AlwaysOptimal ops o s) :
    ∃ st', optimizeEach ops sett F os s st = (.ok (), s, st') ∧ SameObs st st' := by
  induction os generalizing st with
  | nil => exact ⟨st, rfl, .rfl' st⟩
  | cons o os ih =>
    obtain ⟨st1, h1, u1⟩ := optimizeObjective_noop ops sett F o s st (h o List.mem_cons_self)
    obtain ⟨st2, h2, u2⟩ := ih st1 (fun d hd => h d (List.mem_cons_of_mem _ hd))
    exact ⟨st2, by simp only [optimizeEach, h1, h2], u1.trans' u2⟩

/-- **`optimize()` on a problem whose objectives are all at their best possible score changes nothing and draws no
    random number** -/
theorem optimize_noop (ops : SpecOps σ K) (sett : Settings) (F : Frame σ) (s : Seq) (st : St σ K)
    (h : ∀ o ∈ F.objectives, AlwaysOptimal ops o s) :
    ∃ st', optimize ops sett F s st = (.ok (), s, st') ∧ Untouched st st' :=
  let ⟨st', h1, u⟩ := optimizeEach_noop ops sett F _ s st (fun o ho => h o (List.mem_filter.1 ho).1)
  ⟨st', h1, .of_sameObs u⟩

/-! ### non-vacuity: a concrete specification record satisfying the hypotheses -/
def exOps : SpecOps Nat Int where
  evaluate _ _ _ := .ok ⟨0, some []⟩
  localize _ _ _ _ _ := .ok none
  initOn h _ _ _ := .ok (h, .same)
  enforced _ := false
  priority _ := 0
  best _ := some 0
  boost _ := 1
  passive _ := false
  acceptsRighthand _ := true
  heuristic _ := none

example : ∀ c s, AlwaysPasses exOps c s := fun _ _ _ => ⟨⟨0, some []⟩, rfl, by decide⟩
example : ∀ c s, AlwaysOptimal exOps c s := fun _ _ _ => ⟨⟨0, some []⟩, 0, rfl, rfl, by decide⟩

end Dna.C14
