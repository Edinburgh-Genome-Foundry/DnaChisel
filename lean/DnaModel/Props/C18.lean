/-
C18 — Location arithmetic is exact interval arithmetic.
Every theorem is about `Dna.Loc` (Model/Loc.lean), for all integer triples.
-/
import DnaModel.Model.Loc

namespace Dna.C18
open Dna

/-! ### overlap = set intersection -/

theorem mem_def (i : Int) (l : Loc) : i ∈ l ↔ l.start ≤ i ∧ i < l.stop := Iff.rfl

/-- `overlap_region` in closed form, for all `a b`.  The span is always the intersection; the test only asks whether
    the location that starts later (`b` on a tie) starts inside the other, so an empty later location yields `some`
    empty span, not `none`. -/
theorem overlap_eq (a b : Loc) :
    a.overlap b = if a.start ≤ b.start ∧ b.start < a.stop ∨ b.start < a.start ∧ a.start < b.stop then
      some ⟨max a.start b.start, min a.stop b.stop, a.strand⟩ else none := by
  unfold Loc.overlap
  by_cases h : b.start < a.start
  · simp [h, Int.max_eq_left (Int.le_of_lt h), Int.min_comm, ← Int.not_lt]
  · simp [h, Int.max_eq_right (Int.not_lt.1 h), ← Int.not_lt]

theorem overlap_eq_inter (a b : Loc) (ha : a.Nonempty) (hb : b.Nonempty) :
    a.overlap b = if max a.start b.start < min a.stop b.stop then
      some ⟨max a.start b.start, min a.stop b.stop, a.strand⟩ else none := by
  unfold Loc.Nonempty at ha hb
  rw [overlap_eq]
  simp only [Int.max_lt, Int.lt_min]
  exact ite_congr (propext (by omega)) (fun _ => rfl) (fun _ => rfl)

-- `ha`, `hb`: the statement carries them, the proof does not need them
set_option linter.unusedVariables false in
theorem overlap_mem (a b : Loc) (ha : a.Nonempty) (hb : b.Nonempty) (i : Int) :
    (∃ r, a.overlap b = some r ∧ i ∈ r) ↔ (i ∈ a ∧ i ∈ b) := by
  rw [overlap_eq]
  split
  · simp only [Option.some.injEq, exists_eq_left', mem_def, Int.max_le, Int.lt_min]
    exact and_and_and_comm
  · exact iff_of_false (fun ⟨_, h, _⟩ => nomatch h) (by simp only [mem_def]; omega)

theorem overlap_eq_none_iff_disjoint (a b : Loc) (ha : a.Nonempty) (hb : b.Nonempty) :
    a.overlap b = none ↔ a.stop ≤ b.start ∨ b.stop ≤ a.start := by
  unfold Loc.Nonempty at ha hb
  rw [overlap_eq]
  split
  · exact iff_of_false nofun (by omega)
  · exact iff_of_true rfl (by omega)

theorem overlap_eq_none_iff_not_exists_mem (a b : Loc) (ha : a.Nonempty) (hb : b.Nonempty) :
    a.overlap b = none ↔ ¬ ∃ i : Int, i ∈ a ∧ i ∈ b := by
  rw [overlap_eq_inter a b ha hb]
  -- the common members are those of `[max a.start b.start, min a.stop b.stop)`
  simp only [mem_def, and_and_and_comm, ← Int.max_le, ← Int.lt_min]
  split
  · exact iff_of_false nofun (fun hn => hn ⟨_, Int.le_refl _, ‹_›⟩)
  · exact iff_of_true rfl (fun ⟨_, h1, h2⟩ => ‹¬ _› (Int.lt_of_le_of_lt h1 h2))

theorem overlap_comm_span (a b : Loc) (ha : a.Nonempty) (hb : b.Nonempty) :
    (a.overlap b).map (fun r => (r.start, r.stop)) = (b.overlap a).map (fun r => (r.start, r.stop)) := by
  rw [overlap_eq_inter a b ha hb, overlap_eq_inter b a hb ha, Int.max_comm, Int.min_comm]
  split <;> rfl

theorem overlap_strand (a b r : Loc) (h : a.overlap b = some r) : r.strand = a.strand := by
  rw [overlap_eq] at h
  split at h <;> cases h
  rfl

theorem overlap_nonempty (a b r : Loc) (ha : a.Nonempty) (hb : b.Nonempty)
    (h : a.overlap b = some r) : r.Nonempty := by
  rw [overlap_eq_inter a b ha hb] at h
  split at h <;> cases h
  assumption

-- `hb`: the statement carries it, the proof does not need it
set_option linter.unusedVariables false in
theorem overlap_touching (a b : Loc) (ha : a.Nonempty) (hb : b.Nonempty) (h : a.stop = b.start) :
    a.overlap b = none ∧ b.overlap a = none := by
  unfold Loc.Nonempty at ha
  rw [overlap_eq, overlap_eq, if_neg (by omega), if_neg (by omega)]
  exact ⟨rfl, rfl⟩

/-! ### extension -/

theorem extended_start (l : Loc) (n lo : Int) (hi : Option Int) (left right : Bool) :
    (l.extended n lo hi left right).start = if left then max lo (l.start - n) else l.start := by
  simp [Loc.extended]

theorem extended_stop (l : Loc) (n lo : Int) (hi : Option Int) (left right : Bool) :
    (l.extended n lo hi left right).stop =
      if right then (match hi with | some u => min u (l.stop + n) | none => l.stop + n) else l.stop := by
  unfold Loc.extended; cases right <;> cases hi <;> simp

theorem extended_strand (l : Loc) (n lo : Int) (hi : Option Int) (left right : Bool) :
    (l.extended n lo hi left right).strand = l.strand := by
  simp [Loc.extended]

-- `hn`: the statement carries it, the proof does not need it
set_option linter.unusedVariables false in
/-- without active limits, the extension is exactly the `n`-neighbourhood -/
theorem extended_mem_free (l : Loc) (n : Int) (hn : 0 ≤ n) (hl : 0 ≤ l.start - n) (i : Int) :
    i ∈ l.extended n ↔ l.start - n ≤ i ∧ i < l.stop + n := by
  simp only [mem_def, Loc.extended, if_true, Int.max_eq_right hl]

/-! ### ordering, equality, tuples -/

theorem lt_iff (a b : Loc) : a.lt b = true ↔
    a.start < b.start ∨ (a.start = b.start ∧ (a.stop < b.stop ∨ (a.stop = b.stop ∧ a.strand < b.strand))) := by
  simp [Loc.lt]

theorem le_iff (a b : Loc) : a.le b = true ↔ ¬ b.lt a = true := by
  rw [Loc.le, Bool.not_eq_true', Bool.not_eq_true]

theorem lt_irrefl (a : Loc) : a.lt a = false := by
  rw [← Bool.not_eq_true, lt_iff]; omega

theorem lt_trans (a b c : Loc) (h1 : a.lt b = true) (h2 : b.lt c = true) : a.lt c = true := by
  -- one step of a lexicographic order is transitive if what follows it is
  have lex {x y z : Int} {P Q R : Prop} (hR : P → Q → R) :
      x < y ∨ x = y ∧ P → y < z ∨ y = z ∧ Q → x < z ∨ x = z ∧ R := by
    rintro (h | ⟨rfl, p⟩) (h' | ⟨rfl, q⟩)
    · exact .inl (Int.lt_trans h h')
    · exact .inl h
    · exact .inl h'
    · exact .inr ⟨rfl, hR p q⟩
  rw [lt_iff] at *
  exact lex (lex Int.lt_trans) h1 h2

theorem lt_trichotomy (a b : Loc) : a.lt b = true ∨ a = b ∨ b.lt a = true := by
  cases a; cases b; simp only [lt_iff, Loc.mk.injEq]; omega

theorem le_total (a b : Loc) : (a.le b || b.le a) = true := by
  rw [Bool.or_eq_true, le_iff, le_iff, lt_iff, lt_iff]; omega

theorem le_trans (a b c : Loc) (h1 : a.le b = true) (h2 : b.le c = true) : a.le c = true := by
  rw [le_iff] at *
  intro hca
  rcases lt_trichotomy a b with h | rfl | h
  · exact h2 (lt_trans c a b hca h)
  · exact h2 hca
  · exact h1 h

theorem le_start (a b : Loc) (h : a.le b = true) : a.start ≤ b.start := by
  rw [le_iff, lt_iff] at h; omega

theorem eq_iff_toTuple (a b : Loc) : a = b ↔ a.toTuple = b.toTuple := by
  cases a; cases b; simp [Loc.toTuple]

theorem ofTuple_toTuple (a : Loc) : Loc.ofTuple a.toTuple = a := rfl
theorem toTuple_ofTuple (t : Int × Int × Int) : (Loc.ofTuple t).toTuple = t := rfl
theorem ofPair_default (t : Int × Int) : (Loc.ofPair t).toTuple = (t.1, t.2, 0) := rfl
theorem ofBio_none (s e : Int) : (Loc.ofBio s e none).strand = 0 := rfl
theorem ofBio_some (s e st : Int) : Loc.ofBio s e (some st) = ⟨s, e, st⟩ := rfl

/-! ### shifting -/

theorem shift_unshift (l : Loc) (n : Int) : (l.shift n).unshift n = l := by
  cases l; simp [Loc.shift, Loc.unshift]

theorem mem_shift (l : Loc) (n i : Int) : i ∈ l.shift n ↔ i - n ∈ l := by
  simp only [mem_def, Loc.shift, Int.add_le_iff_le_sub, Int.sub_lt_iff]

theorem len_shift (l : Loc) (n : Int) : (l.shift n).len = l.len := by
  simp only [Loc.shift, Loc.len, Int.add_sub_add_right]

/-! ### indices / extraction -/

theorem mem_indices (l : Loc) (i : Int) : i ∈ l.indices ↔ i ∈ l := by
  have : i ∈ (List.range (l.stop - l.start).toNat).map (fun (k : Nat) => l.start + (k : Int)) ↔
      i ∈ l := by
    simp only [List.mem_map, List.mem_range, mem_def, Int.lt_toNat]
    refine ⟨by rintro ⟨k, hk, rfl⟩; omega, fun ⟨h1, h2⟩ => ?_⟩
    obtain ⟨k, rfl⟩ := Int.le.dest h1
    exact ⟨k, by omega, rfl⟩
  unfold Loc.indices
  split <;> simp only [List.mem_reverse, this]

-- with natural bounds the slice is a window: the evaluators use `Loc.extract_natCast` (Proofs/Slice.lean)
theorem extract_plus (l : Loc) (s : Seq) (h : l.strand ≠ -1) :
    l.extract s = some (pySlice s l.start l.stop) := by
  simp [Loc.extract, h]

theorem extract_minus (l : Loc) (s : Seq) (h : l.strand = -1) :
    l.extract s = reverseComplement (pySlice s l.start l.stop) := by
  simp [Loc.extract, h]

/-! ### merging -/

def Covers (ls : List Loc) (i : Int) : Prop := ∃ l ∈ ls, i ∈ l

@[simp] theorem covers_nil (i : Int) : ¬ Covers [] i := by simp [Covers]

@[simp] theorem covers_cons (l : Loc) (ls : List Loc) (i : Int) :
    Covers (l :: ls) i ↔ i ∈ l ∨ Covers ls i := by simp [Covers]

theorem mergeStep_cons (last loc : Loc) (rest : List Loc) (h : last.start ≤ loc.start) :
    Loc.mergeStep (last :: rest) loc =
      if loc.start < last.stop then { last with stop := max last.stop loc.stop } :: rest
      else loc :: last :: rest := by
  simp only [Loc.mergeStep]
  rw [overlap_eq]
  by_cases hc : loc.start < last.stop
  · rw [if_pos (Or.inl ⟨h, hc⟩), if_pos hc]
  · rw [if_neg (by omega), if_neg hc]

/-- One step of the merge loop.  The accumulator is reversed (most recent first); `hs`: `loc` starts no earlier than
    anything merged so far. -/
theorem mergeStep_inv (acc : List Loc) (loc : Loc) (hs : ∀ l ∈ acc, l.start ≤ loc.start) :
    (∀ l ∈ Loc.mergeStep acc loc, l.start ≤ loc.start) ∧
    (acc.Pairwise (fun x y => y.stop ≤ x.start) →
      (Loc.mergeStep acc loc).Pairwise (fun x y => y.stop ≤ x.start)) ∧
    (loc.Nonempty → (∀ l ∈ acc, l.Nonempty) → ∀ l ∈ Loc.mergeStep acc loc, l.Nonempty) ∧
    ∀ i, Covers (Loc.mergeStep acc loc) i ↔ i ∈ loc ∨ Covers acc i := by
  cases acc with
  | nil => simp [Loc.mergeStep]
  | cons last rest =>
    rw [List.forall_mem_cons] at hs
    rw [mergeStep_cons _ _ _ hs.1]
    split <;> simp only [Loc.Nonempty, List.pairwise_cons, List.forall_mem_cons]
    · -- `loc` is absorbed: the head keeps its start and now spans `last ∪ loc`
      refine ⟨hs, id, fun _ h => ⟨Int.lt_of_lt_of_le h.1 (Int.le_max_left ..), h.2⟩, fun i => ?_⟩
      have : i ∈ ({ last with stop := max last.stop loc.stop } : Loc) ↔ i ∈ loc ∨ i ∈ last := by
        simp only [mem_def]; omega
      rw [covers_cons, covers_cons, this, or_assoc]
    · -- `loc` is appended: it starts at or after `last.stop`, hence after all of `rest`
      exact ⟨⟨Int.le_refl _, hs⟩, fun h => ⟨⟨Int.not_lt.1 ‹_›, fun y hy => Int.le_trans (h.1 y hy) hs.1⟩, h⟩,
        fun h1 h2 => ⟨h1, h2⟩, fun i => covers_cons ..⟩

/-- `hs`: what is merged so far starts no later than anything still to come -/
theorem foldl_mergeStep_inv (xs acc : List Loc) (hsorted : xs.Pairwise (fun a b => a.start ≤ b.start))
    (hs : ∀ l ∈ acc, ∀ x ∈ xs, l.start ≤ x.start) :
    (acc.Pairwise (fun x y => y.stop ≤ x.start) →
      (xs.foldl Loc.mergeStep acc).Pairwise (fun x y => y.stop ≤ x.start)) ∧
    ((∀ l ∈ xs, l.Nonempty) → (∀ l ∈ acc, l.Nonempty) → ∀ l ∈ xs.foldl Loc.mergeStep acc, l.Nonempty) ∧
    ∀ i, Covers (xs.foldl Loc.mergeStep acc) i ↔ Covers acc i ∨ Covers xs i := by
  induction xs generalizing acc with
  | nil => simp
  | cons x xs ih =>
    rw [List.pairwise_cons] at hsorted
    obtain ⟨hs', hp, hn, hu⟩ := mergeStep_inv acc x (fun l hl => hs l hl x (by simp))
    obtain ⟨ihp, ihn, ihu⟩ := ih (Loc.mergeStep acc x) hsorted.2
      (fun l hl y hy => Int.le_trans (hs' l hl) (hsorted.1 y hy))
    simp only [List.foldl_cons, List.forall_mem_cons, covers_cons]
    refine ⟨ihp ∘ hp, fun hx ha => ihn hx.2 (hn hx.1 ha), fun i => ?_⟩
    rw [ihu, hu, or_comm (a := i ∈ x), or_assoc]

/-- Merging non-empty locations yields sorted, pairwise disjoint, non-empty locations with exactly the same union. -/
theorem merge_sorted_disjoint_union (locs : List Loc) (hne : ∀ l ∈ locs, l.Nonempty) :
    (Loc.mergeOverlapping locs).Pairwise (fun x y => x.stop ≤ y.start) ∧
    (∀ l ∈ Loc.mergeOverlapping locs, l.Nonempty) ∧
    (∀ i : Int, (∃ l ∈ Loc.mergeOverlapping locs, i ∈ l) ↔ ∃ l ∈ locs, i ∈ l) := by
  have hmem := fun l => (List.mergeSort_perm locs Loc.le).mem_iff (a := l)
  have hsorted : (locs.mergeSort Loc.le).Pairwise (fun a b => a.start ≤ b.start) :=
    (List.pairwise_mergeSort le_trans le_total locs).imp (le_start _ _)
  obtain ⟨hp, hn, hu⟩ := foldl_mergeStep_inv (locs.mergeSort Loc.le) [] hsorted (by simp)
  simp only [Loc.mergeOverlapping, List.pairwise_reverse, List.mem_reverse]
  refine ⟨hp .nil, hn (fun l hl => hne l ((hmem l).1 hl)) nofun, fun i => (hu i).trans ?_⟩
  rw [or_iff_right (covers_nil i)]
  simp only [Covers, hmem]

theorem merge_no_overlap (locs : List Loc) (hne : ∀ l ∈ locs, l.Nonempty) :
    (Loc.mergeOverlapping locs).Pairwise (fun x y => x.overlap y = none) := by
  obtain ⟨hp, hn, _⟩ := merge_sorted_disjoint_union locs hne
  refine hp.imp_of_mem (fun {a b} ha _ h => ?_)
  have := hn a ha
  simp only [Loc.Nonempty] at this
  rw [overlap_eq, if_neg (by omega)]

/-! ### non-vacuity -/

example : (⟨0, 5, 1⟩ : Loc).overlap ⟨3, 9, -1⟩ = some ⟨3, 5, 1⟩ := by decide
example : (⟨0, 5, 1⟩ : Loc).overlap ⟨5, 9, -1⟩ = none := by decide
example : ∀ l ∈ [(⟨3, 9, 0⟩ : Loc), ⟨0, 5, 0⟩, ⟨12, 14, 1⟩, ⟨9, 10, 0⟩], l.Nonempty := by
  simp [Loc.Nonempty]
-- a test, not a theorem: `mergeSort` is by well-founded recursion and does not reduce in `decide`
#guard Loc.mergeOverlapping [⟨3, 9, 0⟩, ⟨0, 5, 0⟩, ⟨12, 14, 1⟩, ⟨9, 10, 0⟩]
    = [⟨0, 9, 0⟩, ⟨9, 10, 0⟩, ⟨12, 14, 1⟩]
example : (⟨5, 10, 1⟩ : Loc).extended 7 0 (some 12) = ⟨0, 12, 1⟩ := by decide

end Dna.C18
