/-
L3 — `dnachisel/MutationSpace/MutationChoice.py`, `MutationSpace.py`.  Core Lean only.

Python sets are lists in arbitrary order here, kept duplicate-free: the input of a
restriction is de-duplicated (`set(choice[1])`), and `merge_with` /
`extract_varying_region` produce duplicate-free lists from duplicate-free lists
(theorems `Merge.mergeCore_nodup`, `Split.extractVaryingRegion_nodup`).  Every consumer
that sorts in the code sorts in the model
(`sortSeqs`).  Random draws come from a tape (list of naturals): each
`np.random.randint(n)` consumes one entry (validated `< n`), each
`np.random.choice(n, k, replace=False)` consumes `k` distinct entries `< n`.
-/
import DnaModel.Model.Loc

namespace Dna

/-! ### ordering of sequences (Python `str` comparison on ASCII) -/

def seqLt : Seq → Seq → Bool
  | [], [] => false
  | [], _ :: _ => true
  | _ :: _, [] => false
  | a :: as, b :: bs => a.toNat < b.toNat || (a == b && seqLt as bs)

def seqLe (a b : Seq) : Bool := !(seqLt b a)

/-- `sorted(variants)` -/
def sortSeqs (l : List Seq) : List Seq := l.mergeSort seqLe

def dedup {α : Type} [BEq α] : List α → List α
  | [] => []
  | a :: as => if as.contains a then dedup as else a :: dedup as

structure Choice where
  start : Nat
  stop : Nat
  variants : List Seq
  anyNuc : Bool := false
deriving Repr, DecidableEq, Inhabited

abbrev Tape := List Nat

inductive SpaceErr where
  | valueError        -- "Cannot constrain a sequence when some positions are unsolvable"
  | crash (what : String)   -- unintended TypeError / KeyError / AttributeError in the Python code
  | tape              -- the tape is exhausted or an entry is out of range (harness error)
deriving Repr, DecidableEq

/-- `np.random.randint(n)` -/
def drawInt (n : Nat) : Tape → Except SpaceErr (Nat × Tape)
  | [] => .error .tape
  | x :: t => if x < n then .ok (x, t) else .error .tape

/-- `np.random.choice(n, k, replace=False)` -/
def drawDistinct (n k : Nat) (t : Tape) : Except SpaceErr (List Nat × Tape) :=
  let xs := t.take k
  if xs.length == k && xs.all (· < n) && (dedup xs).length == k then .ok (xs, t.drop k) else .error .tape

/-- write `v` over `s[start:start+|v|]` (bytearray slice assignment of equal length) -/
def splice (s : Seq) (start : Nat) (v : Seq) : Seq :=
  s.take start ++ v ++ s.drop (start + v.length)

namespace Choice

def seg (c : Choice) (s : Seq) : Seq := (s.drop c.start).take (c.stop - c.start)

/-- `MutationChoice.random_variant` -/
def randomVariant (c : Choice) (s : Seq) (t : Tape) : Except SpaceErr (Seq × Tape) :=
  let cur := c.seg s
  let vs := sortSeqs (c.variants.filter (· != cur))
  match drawInt vs.length t with
  | .error e => .error e
  | .ok (i, t') => match vs[i]? with
    | some v => .ok (v, t')
    | none => .error .tape

/-- the slice of variant `v` of choice `o` that lies on the overlap with `[s, e)` -/
def overlapSlice (o : Choice) (v : Seq) (s e : Nat) : Seq :=
  let istart := max o.start s
  let iend := min o.stop e
  (v.drop (istart - o.start)).take (iend - istart)

/-- cartesian product, first factor slowest (`itertools.product`) -/
def cartesian {α : Type} : List (List α) → List (List α)
  | [] => [[]]
  | l :: ls => l.flatMap (fun a => (cartesian ls).map (a :: ·))

/-- the variants of `o` that agree with `cand` (a variant of `self`) on the overlap of the two segments -/
def compatSlot (self : Choice) (cand : Seq) (o : Choice) : List Seq :=
  o.variants.filter (fun v =>
    overlapSlice o v self.start self.stop ==
      (cand.drop (max o.start self.start - self.start)).take (min o.stop self.stop - max o.start self.start))

/-- the variants of the merged choice: for every variant of `self`, every combination of compatible variants of the
    (sorted) `others`, concatenated, kept when its `self` window is that variant -/
def mergeCore (self : Choice) (ostart : Nat) (others : List Choice) : List Seq :=
  self.variants.flatMap (fun cand =>
    (cartesian (others.map (compatSlot self cand))).filterMap (fun subseqs =>
      let sq := subseqs.flatten
      if (sq.drop (self.start - ostart)).take (self.stop - self.start) == cand then some sq else none))

/-- `MutationChoice.merge_with(others)`; `others` sorted by start here -/
def mergeWith (self : Choice) (others : List Choice) : Option Choice :=
  let others := others.mergeSort (fun a b => a.start ≤ b.start)
  match others.head?, others.getLast? with
  | some first, some last =>
    some { start := first.start, stop := last.stop, variants := mergeCore self first.start others }
  | _, _ => none

/-- first and last+1 column at which the variants are not all equal to the reference -/
def varyingColumns (reference : Seq) (others : List Seq) : Option (Nat × Nat) :=
  let cols := (List.range reference.length).filter (fun i => others.any (fun v => v[i]? != reference[i]?))
  match cols.head?, cols.getLast? with
  | some a, some b => some (a, b + 1)
  | _, _ => none

/-- `MutationChoice.extract_varying_region` -/
def extractVaryingRegion (c : Choice) : List Choice :=
  match c.variants with
  | [] => [c]
  | [_] => [c]
  | reference :: rest =>
    -- the Python code starts with start = -1, end = len(reference) when no column varies: unreachable for >= 2
    -- distinct variants of equal length (the variants are a Python set); the choice is then left as it is
    match varyingColumns reference rest with
    | none => [c]
    | some (st, en) =>
      -- the variants are pairwise distinct (Python set), so the central slices are distinct and the
      -- flanks are single values: no duplicate removal is needed
      (if st > 0 then [{ start := c.start, stop := c.start + st, variants := [reference.take st] }] else []) ++
      [{ start := c.start + st, stop := c.start + en,
         variants := c.variants.map (fun v => (v.drop st).take (en - st)) }] ++
      (if en < reference.length then
        [{ start := c.start + en, stop := c.stop, variants := [reference.drop en] }] else [])

end Choice

/-! ### MutationSpace -/

structure Space where
  /-- `choices_index`, left padding included -/
  index : List (Option Choice)
deriving Repr

namespace Space

/-- `MutationSpace(choices_index, left_padding)` -/
def ofIndex (choicesIndex : List (Option Choice)) (leftPadding : Nat := 0) : Space :=
  ⟨List.replicate leftPadding none ++ choicesIndex⟩

/-- `choices_list`: consecutive distinct non-None entries of the index -/
def dedupConsecutive : List (Option Choice) → Option Choice → List Choice
  | [], _ => []
  | none :: rest, last => dedupConsecutive rest last
  | some c :: rest, last =>
    if last == some c then dedupConsecutive rest last else c :: dedupConsecutive rest (some c)

def choicesList (sp : Space) : List Choice := dedupConsecutive sp.index none

def unsolvable (sp : Space) : List (Nat × Nat) :=
  (sp.choicesList.filter (·.variants.length == 0)).map (fun c => (c.start, c.stop))

def multichoices (sp : Space) : List Choice := sp.choicesList.filter (·.variants.length ≥ 2)

/-- `choices_span` -/
def choicesSpan (sp : Space) : Option (Nat × Nat) :=
  match sp.multichoices.head?, sp.multichoices.getLast? with
  | some a, some b => some (a.start, b.stop)
  | _, _ => none

/-- exact product of the variant counts of the multi-choices; `space_size` is
    `0` when there is none, else `exp(min(100, Σ log nᵢ))` -/
def sizeProduct (sp : Space) : Nat :=
  if sp.multichoices.isEmpty then 0 else (sp.multichoices.map (·.variants.length)).foldl (· * ·) 1

/-- `localized(location)`: `MutationSpace(choices_index[start:end], left_padding=start)` -/
def localized (sp : Space) (start stop : Int) : Space :=
  ofIndex (pySlice sp.index start stop) start.toNat

/-- `constrain_sequence` -/
def constrainLoop : List Choice → Seq → Seq → Tape → Except SpaceErr (Seq × Tape)
  | [], _, acc, t => .ok (acc, t)
  | c :: cs, orig, acc, t =>
    match c.variants with
    | [] => .error .valueError
    | [v] => constrainLoop cs orig (splice acc c.start v) t
    | vs =>
      if vs.contains (pySlice orig c.start c.stop) then constrainLoop cs orig acc t
      else
        match drawInt vs.length t with
        | .error e => .error e
        | .ok (i, t') =>
          match (sortSeqs vs)[i]? with
          | some v => constrainLoop cs orig (splice acc c.start v) t'
          | none => .error .tape

def constrainSequence (sp : Space) (s : Seq) (t : Tape) : Except SpaceErr (Seq × Tape) :=
  constrainLoop sp.choicesList s s t

/-- `pick_random_mutations(n, sequence)` -/
def randomVariants : List Choice → Seq → Tape → Except SpaceErr (List (Nat × Seq) × Tape)
  | [], _, t => .ok ([], t)
  | c :: cs, s, t =>
    match c.randomVariant s t with
    | .error e => .error e
    | .ok (v, t') =>
      match randomVariants cs s t' with
      | .error e => .error e
      | .ok (r, t'') => .ok ((c.start, v) :: r, t'')

def pickRandomMutations (sp : Space) (n : Nat) (s : Seq) (t : Tape) :
    Except SpaceErr (List (Nat × Seq) × Tape) :=
  let mc := sp.multichoices
  let k := min mc.length n
  if k == 1 then
    match drawInt mc.length t with
    | .error e => .error e
    | .ok (i, t') => match mc[i]? with
      | some c => randomVariants [c] s t'
      | none => .error .tape
  else
    match drawDistinct mc.length k t with
    | .error e => .error e
    | .ok (is, t') => randomVariants (is.filterMap (fun i => mc[i]?)) s t'

/-- `apply_random_mutations(n, sequence)` -/
def applyRandomMutations (sp : Space) (n : Nat) (s : Seq) (t : Tape) : Except SpaceErr (Seq × Tape) :=
  match sp.pickRandomMutations n s t with
  | .error e => .error e
  | .ok (muts, t') => .ok (muts.foldl (fun acc m => splice acc m.1 m.2) s, t')

def indexOf? (l : List Seq) (x : Seq) : Option Nat :=
  match l with
  | [] => none
  | a :: as => if a == x then some 0 else (indexOf? as x).map (· + 1)

def distTo (cur i : Nat) : Nat := if i ≥ cur then i - cur else cur - i

/-- the sort key comparison `(|alphasort[v] - alphasort[current]|, v)` on (variant, alphabetical rank) pairs -/
def distLe (cur : Nat) (a b : Seq × Nat) : Bool :=
  distTo cur a.2 < distTo cur b.2 || (distTo cur a.2 == distTo cur b.2 && seqLe a.1 b.1)

/-- the order in which `all_variants` visits the variants of one choice; when the current
    sub-sequence is not one of the variants its rank defaults to 0 -/
def variantsByDistance (c : Choice) (s : Seq) : List Seq :=
  let sorted := sortSeqs c.variants
  let cur := (indexOf? sorted (c.seg s)).getD 0
  (sorted.zipIdx.mergeSort (distLe cur)).map (·.1)

def optAll {α : Type} : List (Option α) → Option (List α)
  | [] => some []
  | none :: _ => none
  | some a :: rest => (optAll rest).map (a :: ·)

/-- `all_variants(sequence)` (the whole generator, as a list) -/
def allVariants (sp : Space) (s : Seq) : Except SpaceErr (List Seq) :=
  match sp.choicesSpan with
  | none => .ok [s]      -- fully determined space: the only variant is the sequence itself
  | some _ =>
    let slots := sp.multichoices.map (fun c => (variantsByDistance c s).map (fun v => (c.start, v)))
    .ok ((Choice.cartesian slots).map (fun combo => combo.foldl (fun acc m => splice acc m.1 m.2) s))

/-! ### construction from restrictions -/

/-- a nucleotide restriction as returned by `restrict_nucleotides`: segment + allowed sub-sequences -/
structure Restriction where
  start : Nat
  stop : Nat
  variants : List Seq
deriving Repr, DecidableEq

def setRange {α : Type} (l : List α) (start stop : Nat) (v : α) (pad : α) : List α :=
  let l := if stop > l.length then l ++ List.replicate (stop - l.length) pad else l
  (List.range l.length).filterMap (fun i => if start ≤ i && i < stop then some v else l[i]?)

/-- processing one (sorted) restriction in `from_optimization_problem` -/
def applyRestriction (index : List (Option Choice)) (r : Restriction) : Except SpaceErr (List (Option Choice)) :=
  let choice : Choice := { start := r.start, stop := r.stop, variants := dedup r.variants }
  let underlying := (index.drop r.start).take (r.stop - r.start)
  let newChoice : Except SpaceErr Choice :=
    if underlying.isEmpty then .ok choice
    else if underlying.any (·.isNone) then .error (.crash "None in underlying choices")
    else if underlying.all (fun c => match c with | some c => c.anyNuc | none => false) then .ok choice
    else
      match choice.mergeWith (dedup (underlying.filterMap id)) with
      | some c => .ok c
      | none => .error (.crash "merge_with on empty set")
  match newChoice with
  | .error e => .error e
  | .ok nc =>
    .ok ((nc.extractVaryingRegion).foldl (fun idx c => setRange idx c.start c.stop (some c) none) index)

def restrictionLe (a b : Restriction) : Bool :=
  let la := a.stop - a.start
  let lb := b.stop - b.start
  la < lb || (la == lb && a.start ≤ b.start)

def foldRestrictions : List Restriction → List (Option Choice) → Except SpaceErr (List (Option Choice))
  | [], idx => .ok idx
  | r :: rs, idx =>
    match applyRestriction idx r with
    | .error e => .error e
    | .ok idx' => foldRestrictions rs idx'

/-- the initial index: one any-nucleotide choice per position -/
def initialIndex (s : Seq) : Option (List (Option Choice)) :=
  optAll ((List.range s.length).map (fun i =>
    match s[i]? with
    | some c => (lookup c Gen.anyNucleotideVariants).map
        (fun vs => some { start := i, stop := i + 1, variants := vs.map (fun x => [x]), anyNuc := true })
    | none => none))

/-- `MutationSpace.from_optimization_problem(problem)` given the constraints' restrictions
    in the order the code collects them -/
def fromRestrictions (s : Seq) (rs : List Restriction) : Except SpaceErr Space :=
  match initialIndex s with
  | none => .error (.crash "KeyError: non-ATGC nucleotide")
  | some idx =>
    match foldRestrictions (rs.mergeSort restrictionLe) idx with
    | .error e => .error e
    | .ok idx' => .ok (ofIndex idx')

end Space
end Dna
