/-
What the built-in classes compute (Model/Builtin.lean), class by class: `evaluate` characterised (`*_score`; `*_passes_iff`:
passing as a predicate on the units of the location) and what `localized` returns, its location computed from the code's
arithmetic (`*_localized_eq`, `*_localized_cover`, `*_localized_none`).  Forward / unstranded locations given by natural
coordinates; scores in ℚ (Proofs/ScoreRat).
Namespace `Dna.C08`: DESIGN.md and the property files call these `C08.*`.
-/
import DnaModel.Model.Builtin
import DnaModel.Proofs.Slice
import DnaModel.Proofs.ScoreRat
import DnaModel.Proofs.Cart
import DnaModel.Props.C10
import DnaModel.Props.C11
import DnaModel.Props.C18
import DnaModel.Props.C19
import Mathlib.Algebra.Order.Field.Basic
import Mathlib.Algebra.BigOperators.Intervals
import Mathlib.Algebra.Order.BigOperators.Group.Finset
namespace Dna.C08
open Dna BSpec

/-! ### passing, and the evaluation as the solver sees it -/

/-- `evaluate` does not raise on `s` and `evaluation.passes` (score ≥ 0, as `C10.passesQ`) -/
def PassesB (b : BSpec Rat) (s : Seq) : Prop := ∃ e, b.evaluate s = some e ∧ 0 ≤ e.score

/-- an `evaluate` that raises counts as failing -/
def evB (b : BSpec Rat) (s : Seq) : Eval Rat :=
  match b.evaluate s with
  | some e => ⟨e.score, e.locs⟩
  | none => ⟨-1, none⟩

theorem passesB_iff_score (b : BSpec Rat) (s : Seq) : PassesB b s ↔ 0 ≤ (evB b s).score := by
  rw [evB, PassesB]
  cases b.evaluate s with
  | none => exact iff_of_false (fun ⟨_, h, _⟩ => nomatch h) (by decide)
  | some e => simp only [Option.some.injEq, exists_eq_left']

theorem evB_passes_iff (b : BSpec Rat) (s : Seq) : (evB b s).passes = true ↔ PassesB b s :=
  (Eval.passes_rat _).trans (passesB_iff_score b s).symm

/-! ### arithmetic of the scores: excesses, sums, counts -/

theorem gcBreach_nonneg (mini maxi g : Rat) : 0 ≤ gcBreach mini maxi g := by
  simp only [gcBreach, Score.add_rat, NumK.pos_rat]
  exact add_nonneg (le_max_left _ _) (le_max_left _ _)

theorem gcBreach_eq_zero_iff (mini maxi g : Rat) : gcBreach mini maxi g = 0 ↔ (mini ≤ g ∧ g ≤ maxi) := by
  simp only [gcBreach, Score.add_rat, NumK.sub_rat, NumK.pos_rat]
  rw [add_eq_zero_iff_of_nonneg (le_max_left _ _) (le_max_left _ _), max_eq_left_iff, max_eq_left_iff, sub_nonpos, sub_nonpos]

theorem filter_range_length_zero (n : Nat) (p : Nat → Bool) :
    ((List.range n).filter p).length = 0 ↔ ∀ i, i < n → p i = false := by
  simp [List.filter_eq_nil_iff]

theorem count_score_nonneg_iff (n : Nat) (p : Nat → Bool) :
    (0 : Rat) ≤ NumK.ofInt (-(((List.range n).filter p).length : Int)) ↔ ∀ i, i < n → p i = false := by
  rw [← filter_range_length_zero]
  exact NumK.ofInt_neg_nonneg_iff _

/-- `c i`: `none` = the check at `i` raises, `some true` = it flags `i`; the left-hand side is what
    `EnforceSequence.evaluate` unfolds to -/
theorem checks_pass_iff (n : Nat) (c : Nat → Option Bool) :
    (¬ ((List.range n).map c).any (·.isNone) = true ∧
      ∀ i, i < n → (((List.range n).map c)[i]? == some (some true)) = false) ↔ ∀ i, i < n → c i = some false := by
  simp only [List.any_eq_true, List.mem_map, List.mem_range, not_exists, not_and, forall_exists_index, and_imp,
    forall_apply_eq_imp_iff₂]
  -- at each `i < n`: the check neither raises nor flags
  rw [← forall₂_and]
  refine forall₂_congr fun i hi => ?_
  rw [List.getElem?_map, List.getElem?_range hi, Option.map_some]
  cases c i with
  | none => simp
  | some v => cases v <;> simp

/-! ### windows and overlaps on natural coordinates -/

theorem length_win_sub (s : Seq) {a b : Nat} (hab : a ≤ b) (hb : b ≤ s.length) : (win s a (b - a)).length = b - a :=
  length_win_of_le s ((Nat.add_sub_cancel' hab).trans_le hb)

theorem extract_natCast_add (s : Seq) (a k : Nat) (st : Int) (hst : st ≠ -1) :
    (⟨(a : Int), ((a + k : Nat) : Int), st⟩ : Loc).extract s = some (win s a k) := by
  rw [Loc.extract_natCast s a _ st hst, Nat.add_sub_cancel_left]

theorem overlap_nat (a b wa wb : Nat) (st ws : Int) (h : max a wa < min b wb) :
    (⟨(a : Int), (b : Int), st⟩ : Loc).overlap ⟨wa, wb, ws⟩ = some ⟨((max a wa : Nat) : Int), ((min b wb : Nat) : Int), st⟩ := by
  rw [Nat.cast_max, Nat.cast_min, C18.overlap_eq]
  exact if_pos (by simp only []; omega)

theorem overlap_nat_none (a b wa wb : Nat) (st ws : Int) (hab : a < b) (hw : wa < wb) (h : ¬ max a wa < min b wb) :
    (⟨(a : Int), (b : Int), st⟩ : Loc).overlap ⟨wa, wb, ws⟩ = none := by
  rw [C18.overlap_eq, if_neg (by simp only []; omega)]

theorem extended_nat (wa wb k : Nat) (ws : Int) (hk : 1 ≤ k) :
    (⟨(wa : Int), (wb : Int), ws⟩ : Loc).extended ((k : Int) - 1) 0 Option.none true true =
      ⟨((wa - (k - 1) : Nat) : Int), ((wb + (k - 1) : Nat) : Int), ws⟩ := by
  simp only [Loc.extended, if_true, Loc.mk.injEq, and_true]
  omega

/-- the location cut to the window extended by `k - 1` on both sides, as `localized` computes it; from this closed form
    `omega` reads off that it lies in `[a, b)` and contains every size-`k` window of `[a, b)` that meets `[wa, wb)` -/
theorem overlap_extended_nat (a b wa wb k : Nat) (st ws : Int) (hk : 1 ≤ k) (hov : max a wa < min b wb) :
    (⟨(a : Int), (b : Int), st⟩ : Loc).overlap ((⟨(wa : Int), (wb : Int), ws⟩ : Loc).extended ((k : Int) - 1) 0 Option.none true true) =
      some ⟨((max a (wa - (k - 1)) : Nat) : Int), ((min b (wb + (k - 1)) : Nat) : Int), st⟩ := by
  -- the wider window still meets `[a, b)`
  have hov' : max a (wa - (k - 1)) < min b (wb + (k - 1)) :=
    (max_le_max_left a (Nat.sub_le _ _)).trans_lt (hov.trans_le (min_le_min_left b (Nat.le_add_right _ _)))
  rw [extended_nat wa wb k ws hk, overlap_nat a b _ _ st ws hov']

/-! ### AvoidChanges (no edit budget, forward / unstranded location) -/

theorem diffCount_zero_iff (u v : Seq) (hlen : u.length = v.length) : diffCount u v = 0 ↔ u = v := by
  rw [C19.diffCount_positions u v hlen, filter_range_length_zero]
  constructor
  · intro h
    apply List.ext_getElem?
    intro i
    by_cases hi : i < u.length
    · simpa using h i hi
    · rw [List.getElem?_eq_none (by omega), List.getElem?_eq_none (by omega)]
  · rintro rfl i _
    simp

/-- forward / unstranded `AvoidChanges` without a budget scores minus the number of edited positions -/
theorem avoidChanges_score {target : Seq} {a b : Nat} {st : Int} (hst : st ≠ -1) {s : Seq} (hab : a ≤ b) (hb : b ≤ s.length)
    (hlen : target.length = b - a) :
    (evB (.avoidChanges 0 target (.loc ⟨a, b, st⟩)) s).score = -((diffCount (win s a (b - a)) target : Nat) : Rat) := by
  obtain ⟨locs, he⟩ := C10.avoidChanges_eval 0 target _ s _ (Loc.extract_natCast s a b st hst)
    ((length_win_sub s hab hb).trans hlen.symm)
  simp only [evB, he, zero_sub, Int.cast_natCast]

/-- … and passes exactly when the location holds the target -/
theorem avoidChanges_passes_iff (target : Seq) (a b : Nat) (st : Int) (hst : st ≠ -1) (s : Seq)
    (hab : a ≤ b) (hb : b ≤ s.length) (hlen : target.length = b - a) :
    PassesB (.avoidChanges 0 target (.loc ⟨a, b, st⟩)) s ↔ win s a (b - a) = target := by
  rw [passesB_iff_score, avoidChanges_score hst hab hb hlen, neg_nonneg, Nat.cast_nonpos,
    diffCount_zero_iff _ _ ((length_win_sub s hab hb).trans hlen.symm)]

/-- each position read through its own window: the shape `soundAt_of_units` (Props/C08) takes -/
theorem avoidChanges_passes_iff_abs {target : Seq} {a b : Nat} {st : Int} (hst : st ≠ -1) {s : Seq}
    (hab : a ≤ b) (hb : b ≤ s.length) (hlen : target.length = b - a) :
    PassesB (.avoidChanges 0 target (.loc ⟨a, b, st⟩)) s ↔ ∀ p, (a ≤ p ∧ p < b) → (win s p 1)[0]? = target[p - a]? := by
  rw [avoidChanges_passes_iff target a b st hst s hab hb hlen, win_eq_iff s target a b hlen]

theorem avoidChanges_localized_eq (target : Seq) (a b wa wb : Nat) (st ws : Int) (rh : Option Bool)
    (hov : max a wa < min b wb) :
    (BSpec.avoidChanges (K := Rat) 0 target (.loc ⟨a, b, st⟩)).localized ⟨wa, wb, ws⟩ rh =
      .new (.avoidChanges 0 (win target (max a wa - a) (min b wb - max a wa)) (.loc ⟨(max a wa : Nat), (min b wb : Nat), st⟩)) := by
  simp only [localized, Score.eq_rat, Score.zero_rat, beq_self_eq_true, Bool.not_true, Bool.false_eq_true, if_false,
    overlap_nat a b wa wb st ws hov, Loc.shift, pySlice_sub_natCast target a (max a wa) (min b wb) (by omega) (by omega)]

theorem avoidChanges_localized_none (target : Seq) (a b wa wb : Nat) (st ws : Int) (rh : Option Bool)
    (hab : a < b) (hw : wa < wb) (hov : ¬ max a wa < min b wb) :
    (BSpec.avoidChanges (K := Rat) 0 target (.loc ⟨a, b, st⟩)).localized ⟨wa, wb, ws⟩ rh = .none := by
  simp only [localized, Score.eq_rat, Score.zero_rat, beq_self_eq_true, Bool.not_true, Bool.false_eq_true, if_false,
    overlap_nat_none a b wa wb st ws hab hw hov]

/-! ### EnforceSequence (IUPAC letters, forward / unstranded location) -/

/-- position `i` of the location holds a nucleotide allowed by the `i`-th IUPAC letter -/
def SeqOk (sq sub : Seq) (i : Nat) : Prop :=
  ∃ n letter set, sub[i]? = some n ∧ sq[i]? = some letter ∧ lookup letter Gen.iupac = some set ∧ set.contains n = true

/-- `EnforceSequence` passes exactly when every position holds a nucleotide of its IUPAC letter -/
theorem enforceSequence_passes_iff (sq : Seq) (a b : Nat) (st : Int) (hst : st ≠ -1) (s : Seq)
    (hab : a ≤ b) (hb : b ≤ s.length) :
    PassesB (.enforceSequence sq ⟨a, b, st⟩) s ↔ (b - a ≤ sq.length ∧ ∀ i, i < b - a → SeqOk sq (win s a (b - a)) i) := by
  have hlen : (win s a (b - a)).length = b - a := length_win_sub s hab hb
  simp only [PassesB, evaluate, Loc.extract_natCast s a b st hst, Option.ite_none_left_eq_some, Option.some.injEq,
    and_assoc, exists_and_left, exists_eq_left']
  generalize win s a (b - a) = sub at hlen
  -- the evaluation, read off: not longer than `sq`, no check raises, and the score `-(number of flagged i)` is ≥ 0
  rw [count_score_nonneg_iff, checks_pass_iff, hlen]
  refine and_congr (by omega) (forall₂_congr fun i hi => ?_)
  -- the check at `i` answers `false` iff `sub[i]` is a nucleotide of the letter `sq[i]`
  unfold SeqOk
  cases sub[i]? with
  | none => simp
  | some n =>
    cases sq[i]? with
    | none => simp
    | some letter => simp

theorem enforceSequence_passes_iff_abs {sq : Seq} {a b : Nat} {st : Int} (hst : st ≠ -1) {s : Seq}
    (hab : a ≤ b) (hb : b ≤ s.length) :
    PassesB (.enforceSequence sq ⟨a, b, st⟩) s ↔ (b - a ≤ sq.length ∧ ∀ p, (a ≤ p ∧ p < b) →
      ∃ n letter set, (win s p 1)[0]? = some n ∧ sq[p - a]? = some letter ∧ lookup letter Gen.iupac = some set ∧
        set.contains n = true) := by
  rw [enforceSequence_passes_iff sq a b st hst s hab hb]
  have hget : ∀ p, a ≤ p ∧ p < b → (win s a (b - a))[p - a]? = (win s p 1)[0]? := fun p hp => by
    rw [getElem?_win_sub s hp.1 hp.2, getElem?_zero_win_one]
  refine and_congr_right fun _ => ⟨fun h p hp => ?_, fun h i hi => ?_⟩
  · rw [← hget p hp]; exact h (p - a) (Nat.sub_lt_sub_right hp.1 hp.2)
  · have hp : a ≤ a + i ∧ a + i < b := ⟨Nat.le_add_right a i, Nat.add_lt_of_lt_sub' hi⟩
    have := h (a + i) hp
    rwa [← hget (a + i) hp, Nat.add_sub_cancel_left] at this

theorem enforceSequence_localized_eq (sq : Seq) (a b wa wb : Nat) (st ws : Int) (hst : st ≠ -1)
    (hov : max a wa < min b wb) :
    (BSpec.enforceSequence (K := Rat) sq ⟨a, b, st⟩).localized ⟨wa, wb, ws⟩ none =
      .new (.enforceSequence (win sq (max a wa - a) (min b wb - max a wa)) ⟨(max a wa : Nat), (min b wb : Nat), st⟩) := by
  have hst' : (st == -1) = false := by simp [hst]
  simp only [localized, Option.isSome_none, Bool.false_eq_true, if_false, overlap_nat a b wa wb st ws hov, hst',
    Int.sub_eq_add_neg, pySlice_sub_natCast sq a (max a wa) (min b wb) (by omega) (by omega)]

/-! ### AvoidStopCodons (forward / unstranded location of whole codons): codon-snapped localization -/

/-- the codon `c` translates, and not to a stop -/
def CodonOk (t : Gen.CodonTable) (c : Seq) : Prop := ∃ x, translateCodon t c = some x ∧ x ≠ '*'

theorem translateCodons_eq_optAll (t : Gen.CodonTable) (cs : List Seq) :
    translateCodons t cs = Space.optAll (cs.map (translateCodon t)) := by
  induction cs with
  | nil => rfl
  | cons c cs ih =>
    rw [translateCodons, ih, List.map_cons]
    cases translateCodon t c <;> cases h : Space.optAll (cs.map (translateCodon t)) <;> simp [Space.optAll, h]

/-- "there is a translation `got` whose letters are all right" becomes "each codon translates to the right letter" -/
theorem exists_optAll_range_iff {β : Type} (m : Nat) (f : Nat → Option β) (Q : Nat → Option β → Prop) :
    (∃ got : List β, Space.optAll ((List.range m).map f) = some got ∧ ∀ i, i < got.length → Q i got[i]?) ↔
      ∀ j, j < m → ∃ x, f j = some x ∧ Q j (some x) := by
  simp only [Cart.optAll_map_range]
  constructor
  · rintro ⟨got, ⟨rfl, hf⟩, hQ⟩ j hj
    have hx : got[j]? = some got[j] := List.getElem?_eq_getElem hj
    exact ⟨got[j], (hf j hj).trans hx, hx ▸ hQ j hj⟩
  · intro h
    choose g hg using h
    refine ⟨List.ofFn fun j : Fin m => g j j.2, ⟨List.length_ofFn, fun k hk => ?_⟩, fun i hi => ?_⟩
    · rw [List.getElem?_ofFn, dif_pos hk]; exact (hg k hk).1
    · rw [List.length_ofFn] at hi
      rw [List.getElem?_ofFn, dif_pos hi]; exact (hg i hi).2

theorem chunk3_win (s : Seq) (a m : Nat) (h : a + 3 * m ≤ s.length) :
    chunk3 (win s a (3 * m)) = (List.range m).map (fun j => win s (a + 3 * j) 3) := by
  induction m generalizing a with
  | zero => rfl
  | succ m ih =>
    rw [Nat.mul_succ, Nat.add_comm, win_split, C19.chunk3_append3 _ _ (length_win_of_le _ (by omega)),
      ih (a + 3) (by omega), List.range_succ_eq_map, List.map_cons, List.map_map]
    congr 1
    apply List.map_congr_left
    intro j _
    rw [Function.comp, Nat.mul_succ, Nat.add_comm (3 * j), Nat.add_assoc]

theorem translate_win (t : Gen.CodonTable) (s : Seq) (a m : Nat) (h : a + 3 * m ≤ s.length) :
    translate t false (win s a (3 * m)) =
      Space.optAll ((List.range m).map fun j => translateCodon t (win s (a + 3 * j) 3)) := by
  simp only [translate, Bool.false_and, Bool.false_eq_true, if_false, chunk3_win s a m h, translateCodons_eq_optAll,
    List.map_map, Function.comp_def]

/-- `AvoidStopCodons` on whole codons passes exactly when every codon translates to something that is not a stop -/
theorem stopCodons_passes_iff {tbl : Nat} {t : Gen.CodonTable} (ht : tableOf tbl = some t) {a m : Nat} {st : Int}
    (hst : st ≠ -1) {s : Seq} (hb : a + 3 * m ≤ s.length) :
    PassesB (.stopCodons tbl ⟨a, (a + 3 * m : Nat), st⟩) s ↔ ∀ j, j < m → CodonOk t (win s (a + 3 * j) 3) := by
  -- the evaluation: translate the codons, count the stops
  have h1 : PassesB (.stopCodons tbl ⟨a, (a + 3 * m : Nat), st⟩) s ↔
      ∃ got, Space.optAll ((List.range m).map fun j => translateCodon t (win s (a + 3 * j) 3)) = some got ∧
        ∀ i, i < got.length → (got[i]? == some '*') = false := by
    simp only [PassesB, evaluate, ht, extract_natCast_add s a (3 * m) st hst, translate_win t s a m hb]
    cases Space.optAll _ with
    | none => simp only [reduceCtorEq, false_and, exists_false]
    | some got => simp only [Option.some.injEq, exists_eq_left', count_score_nonneg_iff]
  rw [h1, exists_optAll_range_iff m _ fun _ o => (o == some '*') = false]
  simp only [CodonOk, beq_eq_false_iff_ne, ne_eq, Option.some.injEq]

/-- the codon-snapped window of `CodonSpecification.localized`, for a window `[x, y)` inside the frame: the codon range
    `[sc, e')` of the frame, which contains every codon that meets the window -/
theorem codonWindow_cover (a m x y : Nat) (st os : Int) (hst : st ≠ -1) (hax : a ≤ x) (hxy : x < y) (hym : y ≤ a + 3 * m) :
    ∃ sc ec e' : Nat, codonWindow (⟨(a : Int), ((a + 3 * m : Nat) : Int), st⟩ : Loc) ⟨(x : Int), (y : Int), os⟩ =
        (⟨((a + 3 * sc : Nat) : Int), ((a + 3 * sc + 3 * (e' - sc) : Nat) : Int), st⟩, sc, ec) ∧
      e' ≤ m ∧ e' ≤ ec ∧ ∀ j, x < a + 3 * j + 3 → a + 3 * j < y → sc ≤ j ∧ j < e' := by
  -- the window as sums, `[a + d, a + f + 1)` with `d ≤ f < 3 * m`: the two `int(x / 3)` of the code are `d / 3` and `f / 3`,
  -- and the `min` with the frame's end is never needed
  obtain ⟨d, rfl⟩ := Nat.exists_eq_add_of_le hax
  obtain ⟨f, rfl⟩ := Nat.exists_eq_add_of_lt (hax.trans_lt hxy)
  have hdiv : ∀ n : Nat, ((n : Int) / 3).toNat = n / 3 := fun n => Int.toNat_natCast (n / 3)
  have hm : f / 3 + 1 ≤ m := Nat.div_lt_of_lt_mul (by omega)
  have hec : (a : Int) + 3 * (((f / 3 : Nat) : Int) + 1) ≤ a + 3 * m := by omega
  refine ⟨d / 3, f / 3 + 1, f / 3 + 1, ?_, hm, le_rfl, fun j h1 h2 => by omega⟩
  rw [Nat.add_assoc _ (3 * _), ← Nat.mul_add, Nat.add_sub_cancel' (show d / 3 ≤ f / 3 + 1 by omega)]
  simp only [codonWindow, bne_iff_ne.2 hst, if_true, Nat.cast_add, Nat.cast_mul, Nat.cast_ofNat, Nat.cast_one, add_assoc,
    add_sub_cancel_left, add_sub_cancel_right, hdiv, min_eq_right hec]

/-- a codon of the frame `[a, a + 3 * m)` that meets `[wa, wb)` meets the overlap of the two -/
theorem codon_meets_overlap {a m wa wb j : Nat} (hj : j < m) (hwa : wa < a + 3 * j + 3) (hwb : a + 3 * j < wb) :
    max a wa < a + 3 * j + 3 ∧ a + 3 * j < min (a + 3 * m) wb :=
  ⟨max_lt (by omega) hwa, lt_min (by omega) hwb⟩

theorem stopCodons_localized_cover (tbl a m wa wb : Nat) (st ws : Int) (hst : st ≠ -1) (rh : Option Bool)
    (hov : max a wa < min (a + 3 * m) wb) :
    ∃ sc e' : Nat, (BSpec.stopCodons (K := Rat) tbl ⟨a, (a + 3 * m : Nat), st⟩).localized ⟨wa, wb, ws⟩ rh =
        .new (.stopCodons tbl ⟨((a + 3 * sc : Nat) : Int), ((a + 3 * sc + 3 * (e' - sc) : Nat) : Int), st⟩) ∧
      e' ≤ m ∧ ∀ j, j < m → wa < a + 3 * j + 3 → a + 3 * j < wb → sc ≤ j ∧ j < e' := by
  obtain ⟨sc, ec, e', hcw, h1, _, h3⟩ := codonWindow_cover a m _ _ st st hst (le_max_left a wa) hov (min_le_left _ wb)
  exact ⟨sc, e', by simp only [localized, overlap_nat a (a + 3 * m) wa wb st ws hov, hcw], h1,
    fun j hj hwa hwb => (codon_meets_overlap hj hwa hwb).elim (h3 j)⟩

/-! ### EnforceTranslation without a start-codon policy (forward / unstranded, whole codons) -/

/-- `EnforceTranslation` on whole codons passes exactly when codon `j` translates to residue `j` of the protein -/
theorem translation_passes_iff (tbl : Nat) (t : Gen.CodonTable) (ht : tableOf tbl = some t) (tr : Seq) (a m : Nat) (st : Int)
    (hst : st ≠ -1) (s : Seq) (hb : a + 3 * m ≤ s.length) :
    PassesB (.translation tbl .none tr ⟨a, (a + 3 * m : Nat), st⟩) s ↔
      (m ≤ tr.length ∧ ∀ j, j < m → ∃ x, translateCodon t (win s (a + 3 * j) 3) = some x ∧ tr[j]? = some x) := by
  -- the evaluation: translate the codons (`got`, of length `m`), compare with the wanted protein letter by letter
  have h1 : PassesB (.translation tbl .none tr ⟨a, (a + 3 * m : Nat), st⟩) s ↔
      m ≤ tr.length ∧ ∃ got, Space.optAll ((List.range m).map fun j => translateCodon t (win s (a + 3 * j) 3)) = some got ∧
        ∀ i, i < got.length → (got[i]? != tr[i]?) = false := by
    simp only [PassesB, evaluate, ht, extract_natCast_add s a (3 * m) st hst, bne_self_eq_false, translate_win t s a m hb]
    cases hg : Space.optAll _ with
    | none => simp only [reduceCtorEq, false_and, exists_false, and_false]
    | some got =>
      simp only [Option.ite_none_left_eq_some, Option.some.injEq, and_assoc, exists_and_left, exists_eq_left',
        count_score_nonneg_iff, ((Cart.optAll_map_range _ m got).1 hg).1, not_lt]
  rw [h1, exists_optAll_range_iff m _ fun j o => (o != tr[j]?) = false]
  simp only [bne_eq_false_iff_eq, eq_comm (a := some _)]

theorem translation_localized_cover (tbl : Nat) (tr : Seq) (a m wa wb : Nat) (st ws : Int) (hst : st ≠ -1) (rh : Option Bool)
    (hov : max a wa < min (a + 3 * m) wb) :
    ∃ sc ec e' : Nat, (BSpec.translation (K := Rat) tbl .none tr ⟨a, (a + 3 * m : Nat), st⟩).localized ⟨wa, wb, ws⟩ rh =
        .new (.translation tbl .none (win tr sc (ec - sc))
          ⟨((a + 3 * sc : Nat) : Int), ((a + 3 * sc + 3 * (e' - sc) : Nat) : Int), st⟩) ∧
      e' ≤ m ∧ e' ≤ ec ∧ ∀ j, j < m → wa < a + 3 * j + 3 → a + 3 * j < wb → sc ≤ j ∧ j < e' := by
  obtain ⟨sc, ec, e', hcw, h1, h2, h3⟩ := codonWindow_cover a m _ _ st st hst (le_max_left a wa) hov (min_le_left _ wb)
  -- `ite_self`: the policy is `.none`, which is also what a window away from the start gets
  exact ⟨sc, ec, e', by simp only [localized, overlap_nat a (a + 3 * m) wa wb st ws hov, hcw, ite_self, win_def], h1, h2,
    fun j hj hwa hwb => (codon_meets_overlap hj hwa hwb).elim (h3 j)⟩

/-! ### windowed EnforceGCContent (forward / unstranded location) -/

/-- the window of `w` nucleotides that starts at `i` has its GC fraction within the bounds -/
def GcOk (mini maxi : Rat) (w : Nat) (s : Seq) (i : Nat) : Prop :=
  mini ≤ frac (K := Rat) (gcCount (win s i w), w) ∧ frac (K := Rat) (gcCount (win s i w), w) ≤ maxi

/-- windowed `EnforceGCContent` scores minus the summed excess of the full windows' GC fractions over the bounds -/
theorem gc_score {mini maxi : Rat} {w : Nat} (hw : 1 ≤ w) {a b : Nat} {st : Int} (hst : st ≠ -1) {s : Seq} (hab : a ≤ b)
    (hb : b ≤ s.length) :
    (evB (.gc mini maxi (some w) ⟨a, b, st⟩) s).score =
      -∑ i ∈ Finset.Ico a (b + 1 - w), gcBreach mini maxi (frac (K := Rat) (gcCount (win s i w), w)) := by
  -- `evaluate` first matches the window against `some 0`: it reduces only once `w` is written as a successor
  obtain ⟨w', rfl⟩ : ∃ w', w = w' + 1 := ⟨w - 1, by omega⟩
  have hL : (win s a (b - a)).length = b - a := length_win_sub s hab hb
  simp only [evB, evaluate, Loc.extract_natCast s a b st hst, Option.isNone_some, Bool.false_and, Bool.false_eq_true, if_false,
    gcFractions, C19.gc_windows_eq_count _ _ hw, gcWindowsDirect, hL, List.map_map, NumK.neg_rat, NumK.sum_rat, Function.comp_def]
  rw [Finset.sum_Ico_eq_sum_range, Nat.sub_right_comm, Nat.sub_add_comm hab]
  -- a `Finset.sum` over `range n` unfolds to the sum of the mapped `List.range n`; window `i` of the region is window `a + i`
  exact congrArg (fun l : List Rat => -l.sum)
    (List.map_congr_left fun i hi => by rw [win_win s a (by have := List.mem_range.1 hi; omega)])

theorem gc_passes_iff_abs {mini maxi : Rat} {w : Nat} (hw : 1 ≤ w) {a b : Nat} {st : Int} (hst : st ≠ -1) {s : Seq}
    (hab : a ≤ b) (hb : b ≤ s.length) :
    PassesB (.gc mini maxi (some w) ⟨a, b, st⟩) s ↔ ∀ p, (a ≤ p ∧ p + w ≤ b) → GcOk mini maxi w s p := by
  -- minus a sum of non-negative excesses is non-negative iff every excess is zero
  have hnn : ∀ i ∈ Finset.Ico a (b + 1 - w), 0 ≤ gcBreach mini maxi (frac (K := Rat) (gcCount (win s i w), w)) :=
    fun i _ => gcBreach_nonneg _ _ _
  rw [passesB_iff_score, gc_score hw hst hab hb, neg_nonneg,
    (Finset.sum_nonneg hnn).ge_iff_eq', Finset.sum_eq_zero_iff_of_nonneg hnn]
  simp only [Finset.mem_Ico, gcBreach_eq_zero_iff, GcOk]
  exact forall_congr' fun p => imp_congr_left (and_congr_right' (Nat.lt_sub_iff_add_lt.trans Nat.lt_succ_iff))

/-- … and passes exactly when every full window has its GC fraction within the bounds -/
theorem gc_passes_iff (mini maxi : Rat) (w : Nat) (hw : 1 ≤ w) (a b : Nat) (st : Int) (hst : st ≠ -1) (s : Seq)
    (hab : a ≤ b) (hb : b ≤ s.length) :
    PassesB (.gc mini maxi (some w) ⟨a, b, st⟩) s ↔ ∀ i, i + w ≤ b - a → GcOk mini maxi w s (a + i) := by
  rw [gc_passes_iff_abs hw hst hab hb]
  refine ⟨fun h i hi => h (a + i) (by omega), fun h p hp => ?_⟩
  obtain ⟨i, rfl⟩ := Nat.exists_eq_add_of_le hp.1
  exact h i (by omega)

theorem gc_localized_eq (mini maxi : Rat) (w : Nat) (hw1 : 1 ≤ w) (a b wa wb : Nat) (st ws : Int)
    (hov : max a wa < min b wb) :
    (BSpec.gc mini maxi (some w) ⟨a, b, st⟩).localized ⟨wa, wb, ws⟩ none =
      .new (.gc mini maxi (some w) ⟨(max a (wa - (w - 1)) : Nat), (min b (wb + (w - 1)) : Nat), st⟩) := by
  simp only [localized, Option.getD_none, overlap_nat a b wa wb st ws hov, overlap_extended_nat a b wa wb w st ws hw1 hov]

theorem gc_localized_none (mini maxi : Rat) (w a b wa wb : Nat) (st ws : Int) (rh : Option Bool)
    (hab : a < b) (hw : wa < wb) (hov : ¬ max a wa < min b wb) :
    (BSpec.gc mini maxi (some w) ⟨a, b, st⟩).localized ⟨wa, wb, ws⟩ rh = .none := by
  simp only [localized, overlap_nat_none a b wa wb st ws hab hw hov]

/-! ### EnforcePatternOccurence -/

/-- itself when the window meets its location, `None` otherwise -/
theorem patternOccurence_localized {K : Type} [NumK K] (pat : Pattern) (occ : Int) (l w : Loc) :
    (BSpec.patternOccurence (K := K) pat occ l).localized w none = .same ∨
      (BSpec.patternOccurence (K := K) pat occ l).localized w none = .none := by
  simp only [localized, Option.isSome_none, Bool.false_eq_true, if_false]
  cases l.overlap w <;> simp

/-! ### AvoidPattern on the forward strand -/

theorem findForward_nil_iff (q : Seq) (hq : q ≠ []) (u : Seq) (a b : Nat) (st : Int) (hab : a ≤ b) (hb : b ≤ u.length) :
    (Pattern.dna q).findForward u ⟨a, b, st⟩ = [] ↔
      ∀ j : Nat, (a ≤ j ∧ j + q.length ≤ b) → ¬ C11.windowMatch q (win u j q.length) := by
  simp only [List.eq_nil_iff_forall_not_mem, C11.findForward_spec q hq u a b st hab hb]
  constructor
  · intro h j hj hm; exact h _ ⟨j, hj.1, hj.2, hm, rfl⟩
  · rintro h l ⟨j, h1, h2, hm, _⟩; exact h j ⟨h1, h2⟩ hm

theorem avoidPattern_passes_iff_forward (p : Pattern) (a b : Nat) (s : Seq) :
    PassesB (.avoidPattern p ⟨a, b, 1⟩) s ↔ p.findForward s ⟨a, b, 1⟩ = [] := by
  simp only [PassesB, C10.avoidPattern_eval, C11.findMatches_plus, Option.map_some, Option.some.injEq, exists_eq_left']
  exact (NumK.ofInt_neg_nonneg_iff _).trans List.length_eq_zero_iff

/-- the two lemmas above in one: the `_abs` shape of the other classes -/
theorem avoidPattern_passes_iff_abs {q : Seq} (hq : q ≠ []) {a b : Nat} {s : Seq} (hab : a ≤ b) (hb : b ≤ s.length) :
    PassesB (.avoidPattern (.dna q) ⟨a, b, 1⟩) s ↔
      ∀ j : Nat, (a ≤ j ∧ j + q.length ≤ b) → ¬ C11.windowMatch q (win s j q.length) :=
  (avoidPattern_passes_iff_forward (.dna q) a b s).trans (findForward_nil_iff q hq s a b 1 hab hb)

/-- the location `avoidPattern_soundAt` (Props/C08) searches after the edit -/
theorem avoidPattern_localized_eq (q : Seq) (a b wa wb : Nat) (hq : 1 ≤ q.length)
    (hov : max a wa < min b wb) :
    (BSpec.avoidPattern (K := Rat) (.dna q) ⟨a, b, 1⟩).localized ⟨wa, wb, 0⟩ none =
      .new (.avoidPattern (.dna q) ⟨(max a (wa - (q.length - 1)) : Nat), (min b (wb + (q.length - 1)) : Nat), 1⟩) := by
  simp only [localized, Pattern.size, Option.getD_none, overlap_nat a b wa wb 1 0 hov,
    overlap_extended_nat a b wa wb q.length 1 0 hq hov]

end Dna.C08

-- the audit of a theorem of the Props files covers the lemmas it uses; these are asked directly as well
#print axioms Dna.C08.evB_passes_iff
#print axioms Dna.C08.gcBreach_eq_zero_iff
#print axioms Dna.C08.filter_range_length_zero
#print axioms Dna.C08.overlap_nat
#print axioms Dna.C08.overlap_nat_none
#print axioms Dna.C08.overlap_extended_nat
#print axioms Dna.C08.diffCount_zero_iff
#print axioms Dna.C08.avoidChanges_passes_iff
#print axioms Dna.C08.enforceSequence_passes_iff
#print axioms Dna.C08.chunk3_win
#print axioms Dna.C08.stopCodons_passes_iff
#print axioms Dna.C08.translation_passes_iff
#print axioms Dna.C08.gc_passes_iff
#print axioms Dna.C08.avoidPattern_passes_iff_forward
#print axioms Dna.C08.avoidPattern_localized_eq
