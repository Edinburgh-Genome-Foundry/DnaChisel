/-
The write-back invariant of `MutationSpace.from_optimization_problem` over the whole fold of restrictions:
the index stays made of whole blocks (`Tiled`) and every processed restriction cuts the language of the index down by
exactly that restriction (`CutBy`: `applyRestriction_spec`, `foldRestrictions_spec`, `fromRestrictions_exact`).
-/
import DnaModel.Model.Space
import DnaModel.Proofs.Merge
import DnaModel.Proofs.Split
import DnaModel.Proofs.Slice
namespace Dna.Fold
open Dna Choice Merge Space Split

/-! ### the invariant: the index is made of whole blocks -/

abbrev Idx := List (Option Choice)

/-- every language statement below is restricted to words over this alphabet: an any-nucleotide block only promises
    `[ch] ∈ c.variants` for `ch ∈ DNA` (`BlockOK.any`), so when a restriction overwrites such blocks, `Accepts` of the
    old index is recovered for DNA words only -/
def DNA : List Char := ['A', 'T', 'G', 'C']

/-- what the index says about the choice `c` found at position `i` -/
structure BlockOK (idx : Idx) (i : Nat) (c : Choice) : Prop where
  lo : c.start ≤ i
  hi : i < c.stop
  inb : c.stop ≤ idx.length
  all : ∀ j, c.start ≤ j → j < c.stop → idx[j]? = some (some c)
  len : ∀ v ∈ c.variants, v.length = c.stop - c.start
  any : c.anyNuc = true → c.stop = c.start + 1 ∧ ∀ ch ∈ DNA, [ch] ∈ c.variants

theorem BlockOK.pos {idx : Idx} {i : Nat} {c : Choice} (ok : BlockOK idx i c) : c.start < c.stop :=
  Nat.lt_of_le_of_lt ok.lo ok.hi

/-- a choice sits in the index on exactly its own segment -/
def Blocks (idx : Idx) : Prop := ∀ (i : Nat) (c : Choice), idx[i]? = some (some c) → BlockOK idx i c
def Full (idx : Idx) : Prop := ∀ (i : Nat), i < idx.length → ∃ c : Choice, idx[i]? = some (some c)
def VarsNodup (idx : Idx) : Prop := ∀ (i : Nat) (c : Choice), idx[i]? = some (some c) → c.variants.Nodup
/-- the language of the index -/
def Accepts (idx : Idx) (t : Seq) : Prop := ∀ (i : Nat) (c : Choice), idx[i]? = some (some c) → c.seg t ∈ c.variants

/-- the invariant of the fold -/
structure Tiled (idx : Idx) : Prop where
  blocks : Blocks idx
  full : Full idx
  nodup : VarsNodup idx

/-- what a step of the fold does, `R` being the restriction it processes -/
structure CutBy (R : Seq → Prop) (idx idx' : Idx) : Prop where
  tiled : Tiled idx'
  length_eq : idx'.length = idx.length
  accepts_iff : ∀ t : Seq, t.length = idx.length → (∀ ch ∈ t, ch ∈ DNA) → (Accepts idx' t ↔ Accepts idx t ∧ R t)

theorem CutBy.refl {idx : Idx} (h : Tiled idx) : CutBy (fun _ => True) idx idx :=
  ⟨h, rfl, fun _ _ _ => (and_iff_left trivial).symm⟩

theorem CutBy.trans {R S : Seq → Prop} {i0 i1 i2 : Idx} (h1 : CutBy R i0 i1) (h2 : CutBy S i1 i2) :
    CutBy (fun t => R t ∧ S t) i0 i2 :=
  ⟨h2.tiled, h2.length_eq.trans h1.length_eq, fun t ht hdna => by
    rw [h2.accepts_iff t (h1.length_eq ▸ ht) hdna, h1.accepts_iff t ht hdna, and_assoc]⟩

theorem CutBy.congr {R S : Seq → Prop} {idx idx' : Idx} (h : CutBy R idx idx') (e : ∀ t, R t ↔ S t) : CutBy S idx idx' :=
  ⟨h.tiled, h.length_eq, fun t ht hdna => (h.accepts_iff t ht hdna).trans (and_congr_right' (e t))⟩

/-! ### walking along the index, one whole block at a time -/

theorem win_block (idx : Idx) (c : Choice) (a e : Nat) (hall : ∀ j, c.start ≤ j → j < c.stop → idx[j]? = some (some c))
    (h1 : c.start ≤ a) (h2 : e ≤ c.stop) :
    win idx a (e - a) = List.replicate (e - a) (some c) := by
  apply List.ext_getElem?
  intro i
  rw [getElem?_win, List.getElem?_replicate]
  split
  · exact hall (a + i) (Nat.le_trans h1 (Nat.le_add_right a i)) (Nat.lt_of_lt_of_le (Nat.add_lt_of_lt_sub' ‹_›) h2)
  · rfl

/-- the step of both walks along the index (`under_runs`, `dedupConsecutive_tiles`) -/
theorem win_step (idx : Idx) (a b : Nat) (c : Choice) (ok : BlockOK idx a c) (hb : c.stop ≤ b) :
    win idx a (b - a) = List.replicate (c.stop - a) (some c) ++ win idx c.stop (b - c.stop) := by
  rw [win_split_at idx a c.stop b (Nat.le_of_lt ok.hi) hb, win_block idx c a c.stop ok.all ok.lo (Nat.le_refl _)]

theorem next_block (idx : Idx) (hB : Blocks idx) (a : Nat) (c c' : Choice) (hc : idx[a]? = some (some c))
    (hc' : idx[c.stop]? = some (some c')) : c'.start = c.stop ∧ (some c : Option Choice) ≠ some c' := by
  have ok := hB a c hc
  have ok' := hB c.stop c' hc'
  have hne : c' ≠ c := fun h => Nat.lt_irrefl _ (h ▸ ok'.hi)
  refine ⟨Nat.le_antisymm ok'.lo (Nat.le_of_not_lt fun hlt => ?_), fun h => hne (Option.some.inj h).symm⟩
  -- otherwise position `c.stop - 1` would belong to both
  have e1 := ok'.all (c.stop - 1) (Nat.le_sub_one_of_lt hlt) (Nat.lt_of_le_of_lt (Nat.sub_le ..) ok'.hi)
  rw [ok.all (c.stop - 1) (Nat.le_sub_one_of_lt ok.pos) (Nat.sub_one_lt_of_lt ok.pos)] at e1
  exact hne (Option.some.inj (Option.some.inj e1)).symm

/-- the underlying choices that `applyRestriction` hands to `mergeWith` for a restriction on `[a, b)`, in the model's
    order: the contiguous blocks from the one holding `a` to the one holding `b - 1` -/
theorem under_runs (idx : Idx) (hB : Blocks idx) (hF : Full idx) (a b : Nat) (hab : a < b) (hb : b ≤ idx.length) :
    ∃ c0 rest, idx[a]? = some (some c0) ∧ dedup ((win idx a (b - a)).filterMap id) = c0 :: rest ∧
      Contig c0.start (c0 :: rest) ∧ b ≤ stopOf c0.start (c0 :: rest) ∧
      (∀ o ∈ c0 :: rest, idx[o.start]? = some (some o)) := by
  -- each step jumps one whole block, so `b - a` decreases
  induction hn : b - a using Nat.strongRecOn generalizing a with
  | _ n ih =>
    subst hn
    obtain ⟨c0, hc0⟩ := hF a (Nat.lt_of_lt_of_le hab hb)
    have ok0 := hB a c0 hc0
    have hpos0 := ok0.pos
    have hstart0 : idx[c0.start]? = some (some c0) := ok0.all c0.start (Nat.le_refl _) hpos0
    by_cases hcov : b ≤ c0.stop
    · refine ⟨c0, [], hc0, ?_, ⟨rfl, Nat.le_of_lt hpos0, trivial⟩, hcov, List.forall_mem_singleton.2 hstart0⟩
      rw [win_block idx c0 a b ok0.all ok0.lo hcov, List.filterMap_replicate_of_some (f := id) rfl,
        ← List.append_nil (List.replicate _ c0), dedup_replicate_append c0 _ [] (Nat.sub_pos_of_lt hab) List.not_mem_nil]
      rfl
    · have hlt : c0.stop < b := Nat.lt_of_not_le hcov
      obtain ⟨c1, rest1, hc1, hd1, hcon1, hstop1, hall1⟩ := ih (b - c0.stop) (Nat.sub_lt_sub_left hab ok0.hi) c0.stop hlt rfl
      have hs1 := (next_block idx hB a c0 c1 hc0 hc1).1
      refine ⟨c0, c1 :: rest1, hc0, ?_, ⟨rfl, Nat.le_of_lt hpos0, hs1 ▸ hcon1⟩, hstop1,
        List.forall_mem_cons.2 ⟨hstart0, hall1⟩⟩
      rw [win_step idx a b c0 ok0 (Nat.le_of_lt hlt), List.filterMap_append,
        List.filterMap_replicate_of_some (f := id) rfl, dedup_replicate_append c0 _ _ (Nat.sub_pos_of_lt ok0.hi), hd1]
      -- `c0` does not come back after its block
      intro hmem
      obtain ⟨_, ho, rfl⟩ := List.mem_filterMap.1 hmem
      obtain ⟨j, hj1, hj2, hj3⟩ := (mem_win_sub_iff idx c0.stop b _).1 ho
      exact Nat.not_lt.2 hj1 (hB j c0 hj3).hi

/-! ### the choices list of a tiled index -/

theorem dedupConsecutive_replicate_same (c : Choice) (k : Nat) (L : Idx) :
    dedupConsecutive (List.replicate k (some c) ++ L) (some c) = dedupConsecutive L (some c) := by
  induction k with
  | zero => rfl
  | succ k ih => rw [List.replicate_succ, List.cons_append, dedupConsecutive, if_pos (beq_self_eq_true _), ih]

theorem dedupConsecutive_replicate (c : Choice) (k : Nat) (L : Idx) (last : Option Choice) (hk : 0 < k)
    (h : last ≠ some c) :
    dedupConsecutive (List.replicate k (some c) ++ L) last = c :: dedupConsecutive L (some c) := by
  cases k with
  | zero => exact absurd hk (Nat.lt_irrefl 0)
  | succ k =>
    rw [List.replicate_succ, List.cons_append, dedupConsecutive, if_neg (by simpa using h),
      dedupConsecutive_replicate_same]

/-- the choices list of an index tiled by whole blocks, read from a block boundary on -/
theorem dedupConsecutive_tiles (idx : Idx) (hB : Blocks idx) (hF : Full idx) (a : Nat) (last : Option Choice)
    (ha : a ≤ idx.length) (hbd : ∀ c : Choice, idx[a]? = some (some c) → c.start = a ∧ last ≠ some c) :
    Contig a (dedupConsecutive (idx.drop a) last) ∧ stopOf a (dedupConsecutive (idx.drop a) last) = idx.length ∧
    ∀ c ∈ dedupConsecutive (idx.drop a) last, ∃ i : Nat, idx[i]? = some (some c) := by
  -- as in `under_runs`, one whole block per step
  induction hn : idx.length - a using Nat.strongRecOn generalizing a last with
  | _ n ih =>
    rcases Nat.eq_or_lt_of_le ha with rfl | hlt
    · rw [List.drop_length]
      exact ⟨trivial, rfl, fun _ h => nomatch h⟩
    · obtain ⟨c, hc⟩ := hF a hlt
      obtain ⟨hcs, hlast⟩ := hbd c hc
      have ok := hB a c hc
      rw [drop_eq_win, win_step idx a idx.length c ok ok.inb, ← drop_eq_win,
        dedupConsecutive_replicate c _ _ last (Nat.sub_pos_of_lt ok.hi) hlast]
      obtain ⟨i1, i2, i3⟩ := ih (idx.length - c.stop) (hn ▸ Nat.sub_lt_sub_left hlt ok.hi) c.stop (some c) ok.inb
        (fun c' hc' => next_block idx hB a c c' hc hc') rfl
      exact ⟨⟨hcs, Nat.le_of_lt ok.pos, i1⟩, i2, List.forall_mem_cons.2 ⟨⟨a, hc⟩, i3⟩⟩

/-- **the choices of a tiled index tile the sequence** -/
theorem choicesList_tiles (sp : Space) (hB : Blocks sp.index) (hF : Full sp.index) :
    Contig 0 sp.choicesList ∧ stopOf 0 sp.choicesList = sp.index.length ∧
    ∀ c ∈ sp.choicesList, c.start < c.stop ∧ c.stop ≤ sp.index.length ∧ ∀ v ∈ c.variants, v.length = c.stop - c.start := by
  obtain ⟨h1, h2, h3⟩ := dedupConsecutive_tiles sp.index hB hF 0 none (Nat.zero_le _)
    (fun c hc => ⟨Nat.le_zero.1 (hB 0 c hc).lo, by simp⟩)
  refine ⟨h1, h2, ?_⟩
  intro c hc
  obtain ⟨i, hi⟩ := h3 c hc
  have ok := hB i c hi
  exact ⟨ok.pos, ok.inb, ok.len⟩

/-! ### writing pieces back -/

theorem setRange_spec {α : Type} (l : List α) (s e : Nat) (v pad : α) (he : e ≤ l.length) :
    (setRange l s e v pad).length = l.length ∧
    ∀ i, (setRange l s e v pad)[i]? = if s ≤ i ∧ i < e then some v else l[i]? := by
  simp only [setRange, if_neg (Nat.not_lt.2 he)]
  -- no padding, and below the length every `l[i]?` is a `some`: the `filterMap` drops nothing and is a `map`
  have hmap : (List.range l.length).filterMap (fun i => if (decide (s ≤ i) && decide (i < e)) = true then some v else l[i]?) =
      (List.range l.length).map (fun i => if s ≤ i ∧ i < e then v else (l[i]?).getD pad) := by
    rw [← List.filterMap_eq_map]
    refine List.filterMap_congr fun i hi => ?_
    simp only [Bool.and_eq_true, decide_eq_true_eq, Function.comp_apply, apply_ite some,
      List.getElem?_eq_getElem (List.mem_range.1 hi), Option.getD_some]
  rw [hmap, List.length_map, List.length_range]
  refine ⟨rfl, fun i => ?_⟩
  rw [List.getElem?_map]
  rcases Nat.lt_or_ge i l.length with hi | hi
  · rw [List.getElem?_range hi, Option.map_some, apply_ite some, List.getElem?_eq_getElem hi, Option.getD_some]
  · rw [if_neg fun h => Nat.not_lt.2 hi (Nat.lt_of_lt_of_le h.2 he), List.getElem?_eq_none hi,
      List.getElem?_eq_none (List.length_range ▸ hi), Option.map_none]

/-- the write-back of `Space.applyRestriction`, its last line by `rfl` -/
def writeAll (pieces : List Choice) (idx : Idx) : Idx :=
  pieces.foldl (fun idx c => setRange idx c.start c.stop (some c) none) idx

/-- `foldl_writes` for `setRange`, as `Splice.applyMuts_disj` is for `splice`: an entry of the index after contiguous
    pieces were written over `[a, stopOf a ps)` is a piece at one of its own positions, or an old entry outside the span -/
theorem writeAll_spec {ps : List Choice} {idx : Idx} {a : Nat} (hc : Contig a ps) (he : stopOf a ps ≤ idx.length) :
    (writeAll ps idx).length = idx.length ∧
    ∀ (i : Nat) (c : Choice), (writeAll ps idx)[i]? = some (some c) ↔
      (c ∈ ps ∧ c.start ≤ i ∧ i < c.stop) ∨ (¬ (a ≤ i ∧ i < stopOf a ps) ∧ idx[i]? = some (some c)) := by
  obtain ⟨w1, w2, w3⟩ := foldl_writes (fun (idx : Idx) (c : Choice) => setRange idx c.start c.stop (some c) none)
    (·.start) (·.stop) (fun p _ => some (some p)) (fun l p hp => setRange_spec l p.start p.stop (some p) none hp) ps idx
    (fun _ hp => Nat.le_trans (contig_mem hc hp).2.2 he) ((contig_pairwise hc).imp Or.inl)
  refine ⟨w1, fun i c => ?_⟩
  have hout : ¬ (a ≤ i ∧ i < stopOf a ps) → (writeAll ps idx)[i]? = idx[i]? := fun hi =>
    w3 i fun p hp hp' => hi ⟨Nat.le_trans (contig_mem hc hp).1 hp'.1, Nat.lt_of_lt_of_le hp'.2 (contig_mem hc hp).2.2⟩
  constructor
  · intro h
    by_cases hi : a ≤ i ∧ i < stopOf a ps
    · obtain ⟨p, hp, hp1, hp2⟩ := contig_cover hc i hi.1 hi.2
      obtain rfl : p = c := Option.some.inj (Option.some.inj ((w2 p hp i hp1 hp2).symm.trans h))
      exact Or.inl ⟨hp, hp1, hp2⟩
    · exact Or.inr ⟨hi, hout hi ▸ h⟩
  · rintro (⟨hp, h1, h2⟩ | ⟨hi, h⟩)
    · exact w2 c hp i h1 h2
    · exact (hout hi).trans h

/-- writing contiguous, well-formed pieces over a span of whole blocks leaves an index of whole blocks -/
theorem writeAll_tiled {ps : List Choice} {idx : Idx} {a : Nat} (hT : Tiled idx) (hc : Contig a ps)
    (he : stopOf a ps ≤ idx.length) (hpos : ∀ p ∈ ps, p.start < p.stop ∧ p.anyNuc = false)
    (hlen : ∀ p ∈ ps, ∀ v ∈ p.variants, v.length = p.stop - p.start) (hnd : ∀ p ∈ ps, p.variants.Nodup)
    (hspan : ∀ (j : Nat) (c : Choice), a ≤ j → j < stopOf a ps → idx[j]? = some (some c) →
      a ≤ c.start ∧ c.stop ≤ stopOf a ps) :
    Tiled (writeAll ps idx) := by
  obtain ⟨hl, hentry⟩ := writeAll_spec hc he
  refine ⟨fun i c h => ?_, fun i hi => ?_, fun i c h => ?_⟩
  · rcases (hentry i c).1 h with ⟨hp, h1, h2⟩ | ⟨hout, hold⟩
    · exact ⟨h1, h2, hl ▸ Nat.le_trans (contig_mem hc hp).2.2 he, fun j hj1 hj2 => (hentry j c).2 (Or.inl ⟨hp, hj1, hj2⟩),
        hlen c hp, fun h => absurd h (Bool.eq_false_iff.1 (hpos c hp).2)⟩
    · have ok := hT.blocks i c hold
      refine ⟨ok.lo, ok.hi, hl ▸ ok.inb, fun j hj1 hj2 => (hentry j c).2 (Or.inr ⟨fun hj => ?_, ok.all j hj1 hj2⟩),
        ok.len, ok.any⟩
      -- a block that holds a position `j` of the span lies inside it, yet it holds `i`
      have := hspan j c hj.1 hj.2 (ok.all j hj1 hj2)
      exact hout ⟨Nat.le_trans this.1 ok.lo, Nat.lt_of_lt_of_le ok.hi this.2⟩
  · by_cases hin : a ≤ i ∧ i < stopOf a ps
    · obtain ⟨p, hp, hp'⟩ := contig_cover hc i hin.1 hin.2
      exact ⟨p, (hentry i p).2 (Or.inl ⟨hp, hp'⟩)⟩
    · obtain ⟨c, hold⟩ := hT.full i (hl ▸ hi)
      exact ⟨c, (hentry i c).2 (Or.inr ⟨hin, hold⟩)⟩
  · rcases (hentry i c).1 h with ⟨hp, _⟩ | ⟨_, hold⟩
    · exact hnd c hp
    · exact hT.nodup i c hold

/-- the language of the written index: the pieces, and the old entries outside the span -/
theorem writeAll_accepts {ps : List Choice} {idx : Idx} {a : Nat} (hc : Contig a ps) (he : stopOf a ps ≤ idx.length)
    (hpos : ∀ p ∈ ps, p.start < p.stop) (t : Seq) :
    Accepts (writeAll ps idx) t ↔ (∀ p ∈ ps, p.seg t ∈ p.variants) ∧
      ∀ (i : Nat) (c : Choice), ¬ (a ≤ i ∧ i < stopOf a ps) → idx[i]? = some (some c) → c.seg t ∈ c.variants := by
  simp only [Accepts, (writeAll_spec hc he).2, or_imp, forall_and, and_imp]
  exact and_congr_left fun _ =>
    ⟨fun h p hp => h p.start p hp (Nat.le_refl _) (hpos p hp), fun h _ p hp _ _ => h p hp⟩

/-- **writing a merged choice back**: if `nc` spans whole blocks of the index (`hspan`) and accepts exactly the words
    that those blocks and the new restriction accept (`hlang`), the write-back cuts the index by the restriction -/
theorem writeBack_spec {idx : Idx} {nc : Choice} {R : Seq → Prop} (hT : Tiled idx)
    (hpos : nc.start < nc.stop) (hinb : nc.stop ≤ idx.length)
    (hlen : ∀ v ∈ nc.variants, v.length = nc.stop - nc.start) (hnd : nc.variants.Nodup)
    (hany : nc.anyNuc = false)
    (hspan : ∀ (j : Nat) (c : Choice), nc.start ≤ j → j < nc.stop → idx[j]? = some (some c) →
      nc.start ≤ c.start ∧ c.stop ≤ nc.stop)
    (hlang : ∀ t : Seq, t.length = idx.length → (∀ ch ∈ t, ch ∈ DNA) →
      (nc.seg t ∈ nc.variants ↔ (R t ∧ ∀ (j : Nat) (c : Choice), nc.start ≤ j → j < nc.stop → idx[j]? = some (some c) → c.seg t ∈ c.variants))) :
    CutBy R idx (writeAll nc.extractVaryingRegion idx) := by
  obtain ⟨t1, t2, t3⟩ := extractVaryingRegion_tiles nc hlen (Nat.le_of_lt hpos)
  have hmore := extractVaryingRegion_pos_notAny nc hlen hpos hany
  rw [← t2] at hinb hspan hlang
  refine ⟨writeAll_tiled hT t1 hinb hmore t3 (extractVaryingRegion_nodup nc hlen hnd) hspan,
    (writeAll_spec t1 hinb).1, fun t ht hdna => ?_⟩
  rw [writeAll_accepts t1 hinb (fun p hp => (hmore p hp).1), ← extractVaryingRegion_language nc t hlen,
    hlang t ht hdna]
  -- the entries inside the span and those outside it are all the entries
  refine (and_assoc.trans (and_congr_right fun _ => ?_)).trans and_comm
  refine ⟨fun ⟨hin, hout⟩ i c hc => ?_, fun h => ⟨fun j c _ _ hc => h j c hc, fun i c _ hc => h i c hc⟩⟩
  by_cases hi : nc.start ≤ i ∧ i < stopOf nc.start nc.extractVaryingRegion
  · exact hin i c hi.1 hi.2 hc
  · exact hout i c hi hc

/-! ### one restriction: merge with the blocks under it, split, write back -/

theorem contig_disjoint (a : Nat) (os : List Choice) (h : Contig a os) :
    os.Pairwise (fun x y => x.stop ≤ y.start) :=
  contig_pairwise h

theorem seg_single (t : Seq) (c : Choice) (h : c.stop = c.start + 1) (hl : c.start < t.length) :
    ∃ ch ∈ t, c.seg t = [ch] := by
  refine ⟨t[c.start], List.getElem_mem hl, ?_⟩
  rw [seg_eq_win, h, Nat.add_sub_cancel_left, win_one_eq_singleton, List.getElem?_eq_getElem hl]

def RestrOK (n : Nat) (r : Restriction) : Prop :=
  r.start < r.stop ∧ r.stop ≤ n ∧ ∀ v ∈ r.variants, v.length = r.stop - r.start

/-- the new choice lies on any-nucleotide blocks only and replaces them; such a block accepts every DNA word, so nothing
    but the new choice cuts -/
theorem writeBack_anyNuc {idx : Idx} {self : Choice} (hT : Tiled idx) (hpos : self.start < self.stop)
    (hinb : self.stop ≤ idx.length) (hlen : ∀ v ∈ self.variants, v.length = self.stop - self.start)
    (hnd : self.variants.Nodup) (hself : self.anyNuc = false)
    (hany : ∀ j, self.start ≤ j → j < self.stop → ∀ c : Choice, idx[j]? = some (some c) → c.anyNuc = true) :
    CutBy (fun t => self.seg t ∈ self.variants) idx (writeAll self.extractVaryingRegion idx) := by
  refine writeBack_spec hT hpos hinb hlen hnd hself (fun j c hj1 hj2 hc => ?_)
    fun t ht hdna => (iff_self_and.2 fun _ j c hj1 hj2 hc => ?_)
  · -- a block of one position: it is `[j, j + 1)`
    have ok := hT.blocks j c hc
    have hs := (ok.any (hany j hj1 hj2 c hc)).1
    exact ⟨Nat.le_trans hj1 (Nat.le_of_lt_add_one (hs ▸ ok.hi)), hs ▸ Nat.succ_le_of_lt (Nat.lt_of_le_of_lt ok.lo hj2)⟩
  · have ok := hT.blocks j c hc
    obtain ⟨hs, hvars⟩ := ok.any (hany j hj1 hj2 c hc)
    obtain ⟨ch, hch, hseg⟩ := seg_single t c hs (ht ▸ Nat.lt_of_lt_of_le ok.pos ok.inb)
    rw [hseg]
    exact hvars ch (hdna ch hch)

/-- the new choice meets a real choice: it is merged with the whole blocks `os` under it (`under_runs`) -/
theorem writeBack_merge {idx : Idx} {self : Choice} {a : Nat} {os : List Choice} (hT : Tiled idx)
    (hpos : self.start < self.stop) (hnd : self.variants.Nodup) (hcon : Contig a os) (h1 : a ≤ self.start)
    (h3 : self.stop ≤ stopOf a os) (hallU : ∀ o ∈ os, idx[o.start]? = some (some o)) :
    CutBy (fun t => self.seg t ∈ self.variants) idx
      (writeAll (⟨a, stopOf a os, mergeCore self a os, false⟩ : Choice).extractVaryingRegion idx) := by
  have hok : ∀ o ∈ os, BlockOK idx o.start o := fun o ho => hT.blocks o.start o (hallU o ho)
  have hlenU : ∀ o ∈ os, ∀ v ∈ o.variants, v.length = o.stop - o.start := fun o ho => (hok o ho).len
  -- a block meeting the span is one of the merged blocks
  have hinU : ∀ (j : Nat) (c : Choice), a ≤ j → j < stopOf a os → idx[j]? = some (some c) → c ∈ os := by
    intro j c hj1 hj2 hc
    obtain ⟨o, ho, ho1, ho2⟩ := contig_cover hcon j hj1 hj2
    obtain rfl : o = c := Option.some.inj (Option.some.inj (((hok o ho).all j ho1 ho2).symm.trans hc))
    exact ho
  have hne : a < stopOf a os := Nat.lt_of_le_of_lt h1 (Nat.lt_of_lt_of_le hpos h3)
  -- the span ends where its last block ends
  have hend : stopOf a os ≤ idx.length := by
    obtain ⟨l, hl, _, hl2⟩ := contig_cover hcon (stopOf a os - 1) (Nat.le_sub_one_of_lt hne) (Nat.sub_one_lt_of_lt hne)
    exact Nat.le_trans (Nat.le_of_pred_lt hl2) (hok l hl).inb
  refine writeBack_spec hT hne hend
    (fun sq h => ((mergeCore_exact self a os sq hcon h1 hlenU).1 h).1)
    (mergeCore_nodup self a os hnd (fun o ho => hT.nodup o.start o (hallU o ho)) hlenU) rfl
    (fun j c hj1 hj2 hc => have h := contig_mem hcon (hinU j c hj1 hj2 hc); ⟨h.1, h.2.2⟩) fun t ht hdna => ?_
  dsimp only
  refine (mergeCore_language self a os t hcon h1 h3 hlenU (ht ▸ hend)).trans
    (and_congr_right fun _ => ⟨fun ho j c hj1 hj2 hc => ho c (hinU j c hj1 hj2 hc), fun hins o ho => ?_⟩)
  have := contig_mem hcon ho
  exact hins o.start o this.1 (Nat.lt_of_lt_of_le (hok o ho).pos this.2.2) (hallU o ho)

/-- **one restriction of `from_optimization_problem`**: the index stays made of whole blocks and its language is cut
    down by exactly the restriction -/
theorem applyRestriction_spec {idx idx' : Idx} {r : Restriction} (hT : Tiled idx) (hr : RestrOK idx.length r)
    (h : applyRestriction idx r = .ok idx') :
    CutBy (fun t => sl t r.start (r.stop - r.start) ∈ r.variants) idx idx' := by
  obtain ⟨c0, rest, hc0, hU, hcon, hstop, hallU⟩ := under_runs idx hT.blocks hT.full r.start r.stop hr.1 hr.2.1
  have hne : ((idx.drop r.start).take (r.stop - r.start)).isEmpty = false := by
    rw [List.isEmpty_eq_false_iff_exists_mem]
    exact ⟨some c0, (mem_win_sub_iff idx _ _ _).2 ⟨_, Nat.le_refl _, hr.1, hc0⟩⟩
  -- `simp only []` unfolds the `let`s; the first `split` is on `match newChoice`, and `hnc : newChoice = .ok nc`;
  -- the `split`s of `hnc` follow the `if`s of `newChoice`, whose second branch is the crash on a `None`
  unfold applyRestriction at h
  simp only [] at h
  split at h
  · cases h
  rename_i nc hnc
  obtain rfl : writeAll nc.extractVaryingRegion idx = idx' := Except.ok.inj h
  rw [if_neg (by simp [hne])] at hnc
  split at hnc
  · cases hnc
  split at hnc
  · rename_i hany
    obtain rfl := Except.ok.inj hnc
    rw [List.all_eq_true] at hany
    exact (writeBack_anyNuc hT hr.1 hr.2.1 (fun v hv => hr.2.2 v ((mem_dedup _ _).1 hv)) (dedup_nodup _) rfl
      fun j hj1 hj2 c hc => hany (some c) ((mem_win_sub_iff idx _ _ _).2 ⟨j, hj1, hj2, hc⟩)).congr fun _ => mem_dedup _ _
  · rw [← win_def, hU, mergeWith_contig _ c0 rest hcon] at hnc
    obtain rfl := Except.ok.inj hnc
    exact (writeBack_merge hT hr.1 (dedup_nodup _) hcon (hT.blocks _ _ hc0).lo hstop hallU).congr fun _ => mem_dedup _ _

/-! ### the whole fold, from the any-nucleotide index -/

/-- the language that `from_optimization_problem` is to build (`C04.Allowed` is this) -/
def Allowed (rs : List Restriction) (t : Seq) : Prop :=
  ∀ r ∈ rs, sl t r.start (r.stop - r.start) ∈ r.variants

theorem foldRestrictions_spec {rs : List Restriction} {idx idx' : Idx} (hT : Tiled idx)
    (hrs : ∀ r ∈ rs, RestrOK idx.length r) (h : foldRestrictions rs idx = .ok idx') : CutBy (Allowed rs) idx idx' := by
  induction rs generalizing idx with
  | nil =>
    obtain rfl : idx = idx' := Except.ok.inj h
    exact (CutBy.refl hT).congr fun t => by simp [Allowed]
  | cons r rs ih =>
    simp only [foldRestrictions] at h
    split at h
    · cases h
    · rename_i idx1 h1
      have c1 := applyRestriction_spec hT (hrs r List.mem_cons_self) h1
      have c2 := ih c1.tiled (fun q hq => c1.length_eq ▸ hrs q (List.mem_cons_of_mem r hq)) h
      exact (c1.trans c2).congr fun t => by simp [Allowed]

theorem initialIndex_entry {s : Seq} {idx : Idx} (h : initialIndex s = some idx) {i : Nat} (hi : i < s.length) :
    ∃ vs : List Char, vs.Nodup ∧ (∀ ch ∈ DNA, ch ∈ vs) ∧
      idx[i]? = some (some { start := i, stop := i + 1, variants := vs.map (fun x => [x]), anyNuc := true }) := by
  obtain ⟨hl, hall⟩ := (Cart.optAll_map_range _ _ _).1 h
  have h1 := hall i hi
  rw [List.getElem?_eq_getElem hi] at h1
  simp only at h1
  cases hlk : lookup s[i] Gen.anyNucleotideVariants with
  | none => rw [hlk, List.getElem?_eq_getElem (hl ▸ hi)] at h1; cases h1
  | some vs =>
    rw [hlk] at h1
    have htab := (by decide : ∀ e ∈ Gen.anyNucleotideVariants, e.2.Nodup ∧ ∀ ch ∈ DNA, ch ∈ e.2) _ (lookup_mem hlk)
    exact ⟨vs, htab.1, htab.2, h1.symm⟩

theorem initialIndex_spec {s : Seq} {idx : Idx} (h : initialIndex s = some idx) :
    Tiled idx ∧ idx.length = s.length ∧ ∀ t : Seq, t.length = s.length → (∀ ch ∈ t, ch ∈ DNA) → Accepts idx t := by
  have hlen : idx.length = s.length := ((Cart.optAll_map_range _ _ _).1 h).1
  -- an entry is a block of one position whose variants are the letters of a list that holds every nucleotide
  have hget : ∀ (i : Nat) (c : Choice), idx[i]? = some (some c) → i < s.length ∧ ∃ vs : List Char, vs.Nodup ∧
      (∀ ch ∈ DNA, ch ∈ vs) ∧ c = { start := i, stop := i + 1, variants := vs.map (fun x => [x]), anyNuc := true } := by
    intro i c hc
    have hi : i < s.length := hlen ▸ (List.getElem?_eq_some_iff.1 hc).1
    obtain ⟨vs, h1, h2, h3⟩ := initialIndex_entry h hi
    exact ⟨hi, vs, h1, h2, Option.some.inj (Option.some.inj (hc.symm.trans h3))⟩
  refine ⟨⟨fun i c hc => ?_, fun i hi => ?_, fun i c hc => ?_⟩, hlen, fun t ht hdna i c hc => ?_⟩
  · obtain ⟨hi, vs, _, hv, rfl⟩ := hget i c hc
    exact ⟨Nat.le_refl i, Nat.lt_succ_self i, hlen ▸ hi,
      fun j (h1 : i ≤ j) (h2 : j < i + 1) => Nat.le_antisymm h1 (Nat.le_of_lt_succ h2) ▸ hc,
      List.forall_mem_map.2 fun _ _ => (Nat.add_sub_cancel_left i 1).symm,
      fun _ => ⟨rfl, fun ch hch => List.mem_map.2 ⟨ch, hv ch hch, rfl⟩⟩⟩
  · obtain ⟨vs, _, _, hvs⟩ := initialIndex_entry h (hlen ▸ hi)
    exact ⟨_, hvs⟩
  · obtain ⟨_, vs, hnd, _, rfl⟩ := hget i c hc
    exact hnd.map List.singleton_injective
  · obtain ⟨hi, vs, _, hv, rfl⟩ := hget i c hc
    obtain ⟨ch, hch, hseg⟩ := seg_single t ⟨i, i + 1, _, true⟩ rfl (ht ▸ hi)
    rw [hseg]
    exact List.mem_map.2 ⟨ch, hv ch (hdna ch hch), rfl⟩

/-- **`MutationSpace.from_optimization_problem` is exact**: for restrictions that lie inside the sequence, a DNA word
    of the sequence's length holds a variant of every choice of the constructed space iff it satisfies every
    restriction, whatever their order and overlaps -/
theorem fromRestrictions_exact (s : Seq) (rs : List Restriction) (sp : Space)
    (hrs : ∀ r ∈ rs, RestrOK s.length r) (h : fromRestrictions s rs = .ok sp) :
    sp.index.length = s.length ∧ Blocks sp.index ∧ Full sp.index ∧ VarsNodup sp.index ∧
    ∀ t : Seq, t.length = s.length → (∀ ch ∈ t, ch ∈ DNA) → (Accepts sp.index t ↔ Allowed rs t) := by
  simp only [fromRestrictions] at h
  split at h
  · cases h
  rename_i idx0 h0
  obtain ⟨T0, l0, a0⟩ := initialIndex_spec h0
  split at h
  · cases h
  rename_i idx1 h1
  obtain rfl : ofIndex idx1 = sp := Except.ok.inj h
  have cut := foldRestrictions_spec T0 (fun r hr => l0 ▸ hrs r (List.mem_mergeSort.1 hr)) h1
  refine ⟨cut.length_eq.trans l0, cut.tiled.blocks, cut.tiled.full, cut.tiled.nodup, fun t ht hdna => ?_⟩
  -- the sorted list has the same restrictions
  refine (cut.accepts_iff t (l0 ▸ ht) hdna).trans ((and_iff_right (a0 t ht hdna)).trans ?_)
  simp only [Allowed, List.mem_mergeSort]

end Dna.Fold
