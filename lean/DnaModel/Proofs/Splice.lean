/-
`splice` (bytearray slice assignment) and `applyMuts`, a fold of splices.  The statement to use is `applyMuts_disj`:
what applying pairwise disjoint splices (`Disj`, any order) gives, i.e. `foldl_writes` (Slice) for this write primitive;
the property files reach it through `C15.applyMuts_readback`.  `Fits`, `applyMuts_length`, `applyMuts_getElem?` say the
same for splices in increasing order; nothing else uses them.
-/
import DnaModel.Model.Space
import DnaModel.Proofs.Slice

namespace Dna.Splice
open Dna

theorem splice_length (s : Seq) (st : Nat) (v : Seq) (h : st + v.length ≤ s.length) :
    (splice s st v).length = s.length := by
  rw [splice, List.length_append, List.length_append, List.length_drop,
    List.length_take_of_le (Nat.le_trans (Nat.le_add_right _ _) h), Nat.add_sub_cancel' h]

theorem splice_getElem? (s : Seq) (st : Nat) (v : Seq) (h : st + v.length ≤ s.length) (i : Nat) :
    (splice s st v)[i]? = if st ≤ i ∧ i < st + v.length then v[i - st]? else s[i]? := by
  rw [splice, List.getElem?_append, List.getElem?_append, List.length_append,
    List.length_take_of_le (Nat.le_trans (Nat.le_add_right _ _) h), List.getElem?_take, List.getElem?_drop]
  by_cases h2 : i < st + v.length
  · by_cases h1 : i < st
    · rw [if_pos h2, if_pos h1, if_pos h1, if_neg (fun c => Nat.not_le.2 h1 c.1)]
    · rw [if_pos h2, if_neg h1, if_pos ⟨Nat.le_of_not_lt h1, h2⟩]
  · rw [if_neg h2, if_neg (fun c => h2 c.2), Nat.add_sub_cancel' (Nat.le_of_not_lt h2)]

/-- the fold of (start, value) splices in `apply_random_mutations` and `all_variants` -/
def applyMuts (s : Seq) (muts : List (Nat × Seq)) : Seq :=
  muts.foldl (fun acc m => splice acc m.1 m.2) s

/-- a predicate on lists defined by "the head is good and stands in `R` to every later element, and so on for the tail"
    (`Fits` below, `C15.MCFits`, `C15.ChoicesFit`) says: every element is good, and the list is `Pairwise R` -/
theorem forall_pairwise_of_cons {α : Type} {F : List α → Prop} {P : α → Prop} {R : α → α → Prop} (hnil : F [])
    (hcons : ∀ a l, F (a :: l) ↔ P a ∧ (∀ b ∈ l, R a b) ∧ F l) (l : List α) :
    F l ↔ (∀ a ∈ l, P a) ∧ l.Pairwise R := by
  induction l with
  | nil => simp [hnil]
  | cons a l ih =>
    rw [hcons, ih, List.forall_mem_cons, List.pairwise_cons]
    exact ⟨fun ⟨p, r, q, w⟩ => ⟨⟨p, q⟩, r, w⟩, fun ⟨⟨p, q⟩, r, w⟩ => ⟨p, r, q, w⟩⟩

/-- fit in `n`, disjoint, in increasing order (`fits_iff`) -/
def Fits (n : Nat) : List (Nat × Seq) → Prop
  | [] => True
  | m :: rest => m.1 + m.2.length ≤ n ∧ (∀ r ∈ rest, m.1 + m.2.length ≤ r.1) ∧ Fits n rest

theorem fits_iff (n : Nat) (muts : List (Nat × Seq)) : Fits n muts ↔
    (∀ m ∈ muts, m.1 + m.2.length ≤ n) ∧ muts.Pairwise (fun m r => m.1 + m.2.length ≤ r.1) :=
  forall_pairwise_of_cons trivial (fun _ _ => Iff.rfl) muts

/-- fit in `n`, pairwise disjoint, in any order -/
def Disj (n : Nat) (muts : List (Nat × Seq)) : Prop :=
  (∀ m ∈ muts, m.1 + m.2.length ≤ n) ∧
  muts.Pairwise (fun a b => a.1 + a.2.length ≤ b.1 ∨ b.1 + b.2.length ≤ a.1)

theorem disj_of_fits (n : Nat) (muts : List (Nat × Seq)) (h : Fits n muts) : Disj n muts :=
  ⟨((fits_iff n muts).1 h).1, ((fits_iff n muts).1 h).2.imp Or.inl⟩

/-- reading back disjoint splices: the length; inside each range; outside all ranges -/
theorem applyMuts_disj (s : Seq) (muts : List (Nat × Seq)) (h : Disj s.length muts) :
    (applyMuts s muts).length = s.length ∧
    (∀ m ∈ muts, ∀ k, k < m.2.length → (applyMuts s muts)[m.1 + k]? = m.2[k]?) ∧
    (∀ i, (∀ m ∈ muts, ¬ (m.1 ≤ i ∧ i < m.1 + m.2.length)) → (applyMuts s muts)[i]? = s[i]?) := by
  obtain ⟨r1, r2, r3⟩ := foldl_writes (fun acc (m : Nat × Seq) => splice acc m.1 m.2) (·.1) (fun m => m.1 + m.2.length)
    (fun m i => m.2[i - m.1]?) (fun l m hm => ⟨splice_length l m.1 m.2 hm, splice_getElem? l m.1 m.2 hm⟩) muts s h.1 h.2
  refine ⟨r1, fun m hm k hk => ?_, r3⟩
  rw [applyMuts, r2 m hm (m.1 + k) (Nat.le_add_right _ _) (Nat.add_lt_add_left hk _), Nat.add_sub_cancel_left]

theorem applyMuts_length (s : Seq) (muts : List (Nat × Seq)) (h : Fits s.length muts) :
    (applyMuts s muts).length = s.length :=
  (applyMuts_disj s muts (disj_of_fits _ _ h)).1

theorem applyMuts_getElem? (s : Seq) (muts : List (Nat × Seq)) (h : Fits s.length muts) (i : Nat) :
    (applyMuts s muts)[i]? =
      match muts.find? (fun m => decide (m.1 ≤ i ∧ i < m.1 + m.2.length)) with
      | some m => m.2[i - m.1]?
      | none => s[i]? := by
  obtain ⟨_, r2, r3⟩ := applyMuts_disj s muts (disj_of_fits _ _ h)
  cases hf : muts.find? (fun m => decide (m.1 ≤ i ∧ i < m.1 + m.2.length)) with
  | some m =>
    have hin : m.1 ≤ i ∧ i < m.1 + m.2.length := of_decide_eq_true (List.find?_some hf :)
    have := r2 m (List.mem_of_find?_eq_some hf) (i - m.1) (Nat.sub_lt_left_of_lt_add hin.1 hin.2)
    rwa [Nat.add_sub_cancel' hin.1] at this
  | none => exact r3 i (fun m hm c => List.find?_eq_none.1 hf m hm (decide_eq_true c))

end Dna.Splice
