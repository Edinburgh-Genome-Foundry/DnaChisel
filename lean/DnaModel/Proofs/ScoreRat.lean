/-
ℚ as the score type.  The theorems about the built-in specifications take `K := Rat`; the operations of `Score`
(Model/Solver) and `NumK` (Model/Builtin) are then those of ℚ.  One equation per operation: a proof about scores
rewrites with them and continues in ℚ.
-/
import DnaModel.Model.Builtin
import DnaModel.Proofs.SolverPure
import Mathlib.Algebra.Order.Ring.Rat

namespace Dna

namespace Score
theorem zero_rat : (Score.zero : Rat) = 0 := rfl
theorem add_rat (a b : Rat) : Score.add a b = a + b := rfl
theorem mul_rat (a b : Rat) : Score.mul a b = a * b := rfl
theorem lt_rat (a b : Rat) : Score.lt a b = decide (a < b) := rfl
theorem le_rat (a b : Rat) : Score.le a b = decide (a ≤ b) := rfl
theorem eq_rat (a b : Rat) : Score.eq a b = (a == b) := rfl

/-- what `NumK.sum`, `Pure.totalFrom` and `weightedTotal` (Model/Report) are over ℚ -/
theorem foldl_add_rat {α : Type} (g : α → Rat) (l : List α) (acc : Rat) :
    l.foldl (fun a x => Score.add a (g x)) acc = acc + (l.map g).sum := by
  induction l generalizing acc with
  | nil => simp
  | cons x xs ih => rw [List.foldl_cons, ih, add_rat, List.map_cons, List.sum_cons, add_assoc]

/-- "not lower", as the solver tests it -/
theorem lt_eq_false_rat {a b : Rat} : Score.lt a b = false ↔ b ≤ a := by
  rw [lt_rat, decide_eq_false_iff_not, not_lt]
end Score

namespace NumK
theorem ofInt_rat (i : Int) : (NumK.ofInt i : Rat) = i := rfl
theorem sub_rat (a b : Rat) : NumK.sub a b = a - b := rfl

theorem neg_rat (a : Rat) : NumK.neg a = -a := zero_sub a

theorem pos_rat (a : Rat) : NumK.pos a = max 0 a := by
  simp only [NumK.pos, Score.lt_rat, Score.zero_rat, decide_eq_true_eq]
  split
  · exact (max_eq_right (le_of_lt ‹_›)).symm
  · exact (max_eq_left (not_lt.1 ‹_›)).symm

theorem abs_rat (a : Rat) : NumK.abs a = |a| := by
  simp only [NumK.abs, Score.lt_rat, Score.zero_rat, neg_rat, decide_eq_true_eq]
  split
  · exact (abs_of_neg ‹_›).symm
  · exact (abs_of_nonneg (not_lt.1 ‹_›)).symm

theorem sum_rat (l : List Rat) : NumK.sum l = l.sum :=
  (Score.foldl_add_rat id l 0).trans (by rw [List.map_id, zero_add])

/-- a score "minus a count" passes exactly when the count is zero -/
theorem ofInt_neg_nonneg_iff (n : Nat) : (0 : Rat) ≤ NumK.ofInt (-(n : Int)) ↔ n = 0 := by
  rw [ofInt_rat, Rat.intCast_nonneg]; omega

theorem ofInt_neg_le_zero (n : Nat) : (NumK.ofInt (-(n : Int)) : Rat) ≤ 0 := by
  rw [ofInt_rat, Rat.intCast_nonpos]; omega

/-- a verdict score, 0 or -1, passes exactly when the verdict is positive -/
theorem ofInt_verdict_nonneg_iff (p : Prop) [Decidable p] : (0 : Rat) ≤ NumK.ofInt (if p then 0 else -1) ↔ p := by
  rw [ofInt_rat, Rat.intCast_nonneg]
  split <;> simp [*]

theorem ofInt_verdict_le_zero (p : Prop) [Decidable p] : (NumK.ofInt (if p then 0 else -1) : Rat) ≤ 0 := by
  rw [ofInt_rat, Rat.intCast_nonpos]
  split <;> decide
end NumK

theorem Eval.passes_rat (e : Eval Rat) : e.passes = true ↔ 0 ≤ e.score := by
  rw [Eval.passes, Score.le_rat, Score.zero_rat, decide_eq_true_eq]

instance Pure.instLawfulScoreRat : Pure.LawfulScore Rat where
  lt_irrefl a := Score.lt_eq_false_rat.2 le_rfl
  lt_trans a b c h1 h2 := by
    rw [Score.lt_rat, decide_eq_true_eq] at *; exact lt_trans h1 h2
  le_iff_not_lt a b := by rw [Score.le_rat, decide_eq_true_eq, Score.lt_eq_false_rat]
  lt_of_lt_of_not_lt a b c h1 h2 := by
    rw [Score.lt_rat, decide_eq_true_eq] at h1 ⊢
    exact lt_of_lt_of_le h1 (Score.lt_eq_false_rat.1 h2)

end Dna

-- used by the Props files in place of their own lemmas: audited like those
#print axioms Dna.NumK.ofInt_neg_nonneg_iff
#print axioms Dna.NumK.ofInt_neg_le_zero
