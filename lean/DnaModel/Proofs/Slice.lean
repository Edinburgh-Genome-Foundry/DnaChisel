/-
`win s i k` (`s[i:i+k]`) is the one normal form for a contiguous part of a list: Python slices with natural bounds
(`pySlice_natCast`), `Choice.seg` (`Merge.seg_eq_win`), `Merge.sl` (`Merge.sl_eq_win`) and `sliceN` (`C17.sliceN_eq_win`)
are windows, so what the property files need about any of them is a fact about `win`.  Core Lean only.
-/
import DnaModel.Model.Loc

namespace Dna
variable {α : Type}

theorem win_def (s : List α) (i k : Nat) : win s i k = (s.drop i).take k := rfl

theorem length_win (s : List α) (i k : Nat) : (win s i k).length = min k (s.length - i) := by
  simp [win]

theorem length_win_of_le (s : List α) {i k : Nat} (h : i + k ≤ s.length) : (win s i k).length = k := by
  rw [length_win, Nat.min_eq_left (Nat.le_sub_of_add_le' h)]

theorem getElem?_win (s : List α) (i k j : Nat) : (win s i k)[j]? = if j < k then s[i + j]? else none := by
  simp only [win, List.getElem?_take, List.getElem?_drop]

theorem getElem?_win_of_lt (s : List α) {i k j : Nat} (hj : j < k) : (win s i k)[j]? = s[i + j]? := by
  rw [getElem?_win, if_pos hj]

/-- no hypothesis on the lengths -/
theorem win_congr (s t : List α) (i k : Nat) (h : ∀ j, j < k → s[i + j]? = t[i + j]?) : win s i k = win t i k := by
  apply List.ext_getElem?
  intro j
  rw [getElem?_win, getElem?_win]
  split
  · exact h j ‹_›
  · rfl

theorem win_zero_left (s : List α) (k : Nat) : win s 0 k = s.take k := rfl

theorem win_split (s : List α) (i k l : Nat) : win s i (k + l) = win s i k ++ win s (i + k) l := by
  simp only [win, List.take_add, List.drop_drop]

theorem take_add_win (s : List α) (j w : Nat) : s.take (j + w) = s.take j ++ win s j w := by
  simpa [win_zero_left] using win_split s 0 j w

theorem win_win (s : List α) (a : Nat) {L i w : Nat} (h : i + w ≤ L) : win (win s a L) i w = win s (a + i) w := by
  rw [win, win, win, List.drop_take, List.take_take, List.drop_drop, Nat.min_eq_left (Nat.le_sub_of_add_le' h)]

/-- `getElem?_win_of_lt`, `win_win` for a window given by its two ends, positions absolute -/
theorem getElem?_win_sub (s : List α) {a b p : Nat} (h1 : a ≤ p) (h2 : p < b) : (win s a (b - a))[p - a]? = s[p]? := by
  rw [getElem?_win_of_lt s (Nat.sub_lt_sub_right h1 h2), Nat.add_sub_cancel' h1]

theorem win_win_sub (s : List α) {a e x l : Nat} (h1 : a ≤ x) (h2 : x + l ≤ e) :
    win (win s a (e - a)) (x - a) l = win s x l := by
  rw [win_win _ _ (Nat.sub_add_comm h1 ▸ Nat.sub_le_sub_right h2 a), Nat.add_sub_cancel' h1]

theorem win_append_middle (a v d : List α) {i k : Nat} (hi : a.length = i) (hk : v.length = k) :
    win (a ++ v ++ d) i k = v := by
  subst hi hk
  simp [win]

theorem win_map {β : Type} (f : α → β) (s : List α) (i k : Nat) : win (s.map f) i k = (win s i k).map f := by
  simp only [win, List.map_take, List.map_drop]

/-- a window with `j` items before it and `i` after it has `i` items before it in the reversed list -/
theorem win_reverse (s : List α) {i j k : Nat} (h : i + k + j = s.length) : win s.reverse i k = (win s j k).reverse := by
  rw [win, win, List.drop_reverse, List.take_reverse, List.length_take_of_le (Nat.sub_le ..), ← h, Nat.add_assoc,
    Nat.add_sub_cancel_left, Nat.add_sub_cancel_left, List.drop_take, Nat.add_sub_cancel]

theorem take_win_drop (s : List α) (a k : Nat) : s.take a ++ win s a k ++ s.drop (a + k) = s := by
  simp only [win]
  rw [List.append_assoc, ← List.drop_drop, List.take_append_drop, List.take_append_drop]

theorem drop_eq_win (s : List α) (i : Nat) : s.drop i = win s i (s.length - i) :=
  (List.take_of_length_le (Nat.le_of_eq List.length_drop)).symm

theorem win_split_at (s : List α) (a m b : Nat) (h1 : a ≤ m) (h2 : m ≤ b) :
    win s a (b - a) = win s a (m - a) ++ win s m (b - m) := by
  rw [← Nat.sub_add_sub_cancel h2 h1, Nat.add_comm (b - m), win_split, Nat.add_sub_cancel' h1]

theorem win_one (s : List α) (i : Nat) : win s i 1 = s[i]?.toList := by
  rw [win, List.take_one, List.head?_drop]

theorem win_one_eq_singleton (s : List α) (i : Nat) (x : α) : win s i 1 = [x] ↔ s[i]? = some x := by
  rw [win_one]
  cases s[i]? <;> simp

theorem getElem?_zero_win_one (s : List α) (i : Nat) : (win s i 1)[0]? = s[i]? :=
  getElem?_win_of_lt s Nat.one_pos

theorem win_eq_iff_getElem? (u tg : List α) (a : Nat) {k : Nat} (hlen : tg.length = k) :
    win u a k = tg ↔ ∀ j, j < k → u[a + j]? = tg[j]? := by
  subst hlen
  refine ⟨fun h j hj => by rw [← h, getElem?_win_of_lt u hj], fun h => List.ext_getElem? fun j => ?_⟩
  rw [getElem?_win]
  split
  · exact h j ‹_›
  · exact (List.getElem?_eq_none (Nat.not_lt.1 ‹_›)).symm

/-- positions absolute, each read through its own window of length 1 -/
theorem win_eq_iff (u tg : List α) (a b : Nat) (hlen : tg.length = b - a) :
    win u a (b - a) = tg ↔ ∀ p, (a ≤ p ∧ p < b) → (win u p 1)[0]? = tg[p - a]? := by
  simp only [win_eq_iff_getElem? u tg a hlen, getElem?_zero_win_one]
  exact ⟨fun h p hp => by rw [← h (p - a) (Nat.sub_lt_sub_right hp.1 hp.2), Nat.add_sub_cancel' hp.1],
    fun h j hj => by rw [h (a + j) ⟨Nat.le_add_right a j, Nat.add_lt_of_lt_sub' hj⟩, Nat.add_sub_cancel_left]⟩

theorem mem_of_mem_win {s : List α} {i k : Nat} {x : α} (h : x ∈ win s i k) : x ∈ s :=
  List.mem_of_mem_drop (List.mem_of_mem_take h)

/-- no hypothesis: an empty window has no member -/
theorem mem_win_sub_iff (s : List α) (a b : Nat) (x : α) : x ∈ win s a (b - a) ↔ ∃ p, a ≤ p ∧ p < b ∧ s[p]? = some x := by
  simp only [List.mem_iff_getElem?, getElem?_win]
  constructor
  · rintro ⟨j, hj⟩
    split at hj
    · exact ⟨a + j, Nat.le_add_right a j, Nat.add_lt_of_lt_sub' ‹_›, hj⟩
    · cases hj
  · rintro ⟨p, h1, h2, h⟩
    exact ⟨p - a, by rw [if_pos (Nat.sub_lt_sub_right h1 h2), Nat.add_sub_cancel' h1, h]⟩

/-! ### list facts not in core -/

/-- a list laid out from position `i` on: the head at `i`, the tail from `i + 1` on -/
theorem exists_getElem?_cons (b x : α) (bs : List α) (i j : Nat) :
    (∃ k, j = i + k ∧ (b :: bs)[k]? = some x) ↔ (j = i ∧ b = x) ∨ ∃ k, j = i + 1 + k ∧ bs[k]? = some x := by
  constructor
  · rintro ⟨_ | k, rfl, h⟩
    · exact .inl ⟨rfl, Option.some.inj h⟩
    · exact .inr ⟨k, (Nat.add_right_comm i 1 k).symm, h⟩
  · rintro (⟨rfl, rfl⟩ | ⟨k, rfl, h⟩)
    · exact ⟨0, rfl, rfl⟩
    · exact ⟨k + 1, Nat.add_right_comm i 1 k, h⟩

theorem filter_range_succ (p : Nat → Bool) (n : Nat) :
    (List.range (n + 1)).filter p =
      (if p 0 then [0] else []) ++ ((List.range n).filter (fun i => p (i + 1))).map (· + 1) := by
  rw [List.range_succ_eq_map, List.filter_cons, List.filter_map]
  split <;> rfl

theorem countP_eq_range (p : α → Bool) (l : List α) :
    l.countP p = ((List.range l.length).filter (fun i => l[i]?.any p)).length := by
  induction l with
  | nil => rfl
  | cons a l ih =>
    rw [List.length_cons, filter_range_succ, List.countP_cons, ih]
    cases h : p a <;> simp [h]

theorem drop_map_range {β : Type} (P : Nat → β) (w n : Nat) :
    ((List.range n).map P).drop w = (List.range (n - w)).map (fun i => P (w + i)) := by
  rw [← List.map_drop, List.range_eq_range', List.drop_range', List.range'_eq_map_range, List.map_map]
  simp [Function.comp_def]

theorem zipWith_map_range {β γ δ : Type} (f : β → γ → δ) (P : Nat → β) (Q : Nat → γ) (j k : Nat) :
    List.zipWith f ((List.range j).map P) ((List.range k).map Q) =
      (List.range (min j k)).map (fun i => f (P i) (Q i)) := by
  rw [List.zipWith_map, List.zipWith_eq_zipWith_take_min, List.take_range, List.take_range, List.length_range,
    List.length_range, Nat.min_eq_left (Nat.min_le_left j k), Nat.min_eq_left (Nat.min_le_right j k),
    List.zipWith_self]

theorem zip_reverse {β : Type} (l₁ : List α) (l₂ : List β) (h : l₁.length = l₂.length) :
    l₁.reverse.zip l₂.reverse = (l₁.zip l₂).reverse :=
  (List.reverse_zipWith h).symm

/-- a fold of writes into pairwise disjoint ranges `[lo b, hi b)`, in any order: the length is kept, inside a range we
    read what was written there, outside all of them the original.  `hw` says what one write does -/
theorem foldl_writes {β : Type} (write : List α → β → List α) (lo hi : β → Nat) (val : β → Nat → Option α)
    (hw : ∀ (l : List α) (b : β), hi b ≤ l.length → (write l b).length = l.length ∧
      ∀ i, (write l b)[i]? = if lo b ≤ i ∧ i < hi b then val b i else l[i]?)
    (bs : List β) (l : List α) (hin : ∀ b ∈ bs, hi b ≤ l.length)
    (hd : bs.Pairwise (fun a b => hi a ≤ lo b ∨ hi b ≤ lo a)) :
    (bs.foldl write l).length = l.length ∧
    (∀ b ∈ bs, ∀ i, lo b ≤ i → i < hi b → (bs.foldl write l)[i]? = val b i) ∧
    (∀ i, (∀ b ∈ bs, ¬ (lo b ≤ i ∧ i < hi b)) → (bs.foldl write l)[i]? = l[i]?) := by
  induction bs generalizing l with
  | nil => exact ⟨rfl, fun _ h => absurd h List.not_mem_nil, fun _ _ => rfl⟩
  | cons b bs ih =>
    rw [List.pairwise_cons] at hd
    obtain ⟨w1, w2⟩ := hw l b (hin b List.mem_cons_self)
    obtain ⟨i1, i2, i3⟩ := ih (write l b) (fun c hc => w1 ▸ hin c (List.mem_cons_of_mem _ hc)) hd.2
    rw [List.foldl_cons]
    refine ⟨i1.trans w1, fun c hc i h1 h2 => ?_, fun i hi => ?_⟩
    · rcases List.mem_cons.1 hc with rfl | hc
      · -- the later writes are disjoint from this one
        rw [i3 i (fun q hq => by have := hd.1 q hq; omega), w2 i, if_pos ⟨h1, h2⟩]
      · exact i2 c hc i h1 h2
    · rw [i3 i (fun c hc => hi c (List.mem_cons_of_mem _ hc)), w2 i, if_neg (hi b List.mem_cons_self)]

theorem pairwise_head? {R : α → α → Prop} {l : List α} {x : α} (hp : l.Pairwise R) (hx : l.head? = some x) :
    ∀ c ∈ l, c = x ∨ R x c := by
  obtain ⟨t, rfl⟩ := List.head?_eq_some_iff.1 hx
  exact fun c hc => (List.mem_cons.1 hc).imp id ((List.pairwise_cons.1 hp).1 c)

theorem pairwise_getLast? {R : α → α → Prop} {l : List α} {y : α} (hp : l.Pairwise R) (hy : l.getLast? = some y) :
    ∀ c ∈ l, c = y ∨ R c y := fun c hc =>
  pairwise_head? (List.pairwise_reverse.2 hp) (List.head?_reverse.trans hy) c (List.mem_reverse.2 hc)

/-! ### the model's table `lookup` -/

theorem lookup_mem {β : Type} [BEq α] [LawfulBEq α] {k : α} {l : List (α × β)} {v : β} (h : lookup k l = some v) :
    (k, v) ∈ l := by
  fun_induction lookup k l with
  | case1 => cases h
  | case2 a b rest hak => cases h; exact eq_of_beq hak ▸ List.mem_cons_self
  | case3 a b rest hak ih => exact List.mem_cons_of_mem _ (ih h)

/-! ### Python slices with natural bounds are windows -/

theorem pyIndex_natCast (n a : Nat) : pyIndex n (a : Int) = min a n := by
  rw [pyIndex, if_neg (Int.not_lt.2 (Int.natCast_nonneg a)), Int.toNat_natCast]
  split
  · exact (Nat.min_eq_right (Nat.le_of_lt (Int.ofNat_lt.1 ‹_›))).symm
  · exact (Nat.min_eq_left (Nat.not_lt.1 (mt Int.ofNat_lt.2 ‹_›))).symm

/-- no hypothesis: `a`, `b` in any order, within the length or not -/
theorem pySlice_natCast (s : List α) (a b : Nat) : pySlice s (a : Int) (b : Int) = win s a (b - a) := by
  simp only [pySlice, pyIndex_natCast, win]
  by_cases h : a ≤ s.length
  · rw [Nat.min_eq_left h, List.take_eq_take_iff, List.length_drop, ← Nat.sub_min_sub_right, Nat.min_assoc, Nat.min_self]
  · have h' := Nat.le_of_not_le h
    rw [List.drop_eq_nil_of_le h', List.drop_eq_nil_of_le (Nat.le_min.2 ⟨h', Nat.le_refl _⟩), List.take_nil, List.take_nil]

theorem pySlice_of_nonneg (s : List α) (a b : Int) (ha : 0 ≤ a) (hb : 0 ≤ b) :
    pySlice s a b = win s a.toNat (b.toNat - a.toNat) := by
  obtain ⟨k, rfl⟩ := Int.eq_ofNat_of_zero_le ha
  obtain ⟨l, rfl⟩ := Int.eq_ofNat_of_zero_le hb
  simpa using pySlice_natCast s k l

theorem pySlice_congr (s t : List α) (a b : Int) (ha : 0 ≤ a) (hb : 0 ≤ b)
    (h : ∀ i : Nat, a ≤ (i : Int) → (i : Int) < b → s[i]? = t[i]?) :
    pySlice s a b = pySlice t a b := by
  obtain ⟨k, rfl⟩ := Int.eq_ofNat_of_zero_le ha
  obtain ⟨l, rfl⟩ := Int.eq_ofNat_of_zero_le hb
  rw [pySlice_natCast, pySlice_natCast]
  exact win_congr s t _ _ fun j hj => h _ (Int.ofNat_le.2 (Nat.le_add_right k j)) (Int.ofNat_lt.2 (Nat.add_lt_of_lt_sub' hj))

/-- `l[x-a : y-a]`.  The bounds are spelled `x + -a` because that is what `Loc.shift loc (-a)` leaves; a bound written
    `x - a` gets this form by `Int.sub_eq_add_neg`. -/
theorem pySlice_sub_natCast (l : List α) (a x y : Nat) (hax : a ≤ x) (hxy : x ≤ y) :
    pySlice l ((x : Int) + -(a : Int)) ((y : Int) + -(a : Int)) = win l (x - a) (y - x) := by
  rw [← Int.sub_eq_add_neg, ← Int.sub_eq_add_neg, ← Int.ofNat_sub hax, ← Int.ofNat_sub (Nat.le_trans hax hxy), pySlice_natCast,
    Nat.sub_sub_sub_cancel_right hax]

theorem mem_of_mem_pySlice {l : List α} {a b : Int} {x : α} (h : x ∈ pySlice l a b) : x ∈ l :=
  mem_of_mem_win h

theorem Loc.extract_natCast (s : Seq) (a b : Nat) (st : Int) (hst : st ≠ -1) :
    (⟨a, b, st⟩ : Loc).extract s = some (win s a (b - a)) := by
  have : (st == -1) = false := by simp [hst]
  simp only [Loc.extract, this, Bool.false_eq_true, if_false, pySlice_natCast]

theorem pySliceTo_neg (l : List α) {w : Nat} (hw : 0 < w) : pySliceTo l (-(w : Int)) = l.take (l.length - w) := by
  rw [pySliceTo, pyIndex, if_pos (Int.neg_neg_of_pos (Int.natCast_pos.2 hw)), Int.add_comm, ← Int.sub_eq_add_neg,
    ← Int.toNat_sub]
  split
  · rw [Int.toNat_eq_zero.2 (Int.le_of_lt ‹_›)]
  · rfl

end Dna

#print axioms Dna.pySlice_congr
