/-
`Choice.cartesian` = `itertools.product` (first factor slowest): membership (a `List.Forall₂`), length, no duplicates,
emptiness.  `Space.optAll l = some r` says `l = r.map some`, read entry by entry for a list given by a formula
(`optAll_map_range`).  Last section: a `Forall₂` read position by position.
-/
import DnaModel.Model.Space
import Mathlib.Data.List.Forall2
import Mathlib.Data.List.Nodup

namespace Dna.Cart
open Dna Choice

theorem mem_cartesian {α : Type} : ∀ (ls : List (List α)) (t : List α),
    t ∈ cartesian ls ↔ List.Forall₂ (· ∈ ·) t ls := fun ls t => by
  induction ls generalizing t with
  | nil => rw [cartesian, List.mem_singleton, List.forall₂_nil_right_iff]
  | cons l ls ih =>
    simp only [cartesian, List.mem_flatMap, List.mem_map, List.forall₂_cons_right_iff, ih]
    exact ⟨fun ⟨a, ha, u, hu, e⟩ => ⟨a, u, ha, hu, e.symm⟩, fun ⟨a, u, ha, hu, e⟩ => ⟨a, ha, u, hu, e.symm⟩⟩

theorem length_cartesian {α : Type} : ∀ (ls : List (List α)),
    (cartesian ls).length = (ls.map List.length).foldr (· * ·) 1
  | [] => by simp [cartesian]
  | l :: ls => by
    rw [cartesian, List.map_cons, List.foldr_cons, ← length_cartesian ls, List.length_flatMap]
    simp only [List.length_map, List.map_const', List.sum_replicate_nat]

theorem nodup_cartesian {α : Type} : ∀ (ls : List (List α)), (∀ l ∈ ls, l.Nodup) → (cartesian ls).Nodup
  | [], _ => by simp [cartesian]
  | l :: ls, h => by
    have hl : l.Nodup := h l List.mem_cons_self
    have ih := nodup_cartesian ls (fun x hx => h x (List.mem_cons_of_mem _ hx))
    simp only [cartesian]
    rw [List.nodup_flatMap]
    constructor
    · intro a _
      exact ih.map List.cons_injective
    · refine hl.imp ?_
      intro a b hab
      simp only [List.disjoint_left, List.mem_map]
      rintro x ⟨u, _, rfl⟩ ⟨v, _, hv⟩
      exact hab (List.cons_eq_cons.1 hv).1.symm

theorem cartesian_eq_nil {α : Type} (ls : List (List α)) : cartesian ls = [] ↔ [] ∈ ls := by
  induction ls with
  | nil => simp [cartesian]
  | cons l ls ih =>
    simp only [cartesian, List.flatMap_eq_nil_iff, List.map_eq_nil_iff, ih, List.mem_cons]
    cases l with
    | nil => simp
    | cons a l => exact ⟨fun h => Or.inr (h a (by simp)), fun h _ _ => h.resolve_left (by simp)⟩

theorem head_cartesian {α : Type} (ls : List (List α)) (hs : List α)
    (h : List.Forall₂ (fun h l => l.head? = some h) hs ls) : (cartesian ls).head? = some hs := by
  induction h with
  | nil => rfl
  | @cons a l as ls ha _ ih =>
    obtain ⟨xs, rfl⟩ := List.head?_eq_some_iff.1 ha
    obtain ⟨us, hu⟩ := List.head?_eq_some_iff.1 ih
    rw [cartesian, hu]
    rfl

theorem optAll_eq_some {α : Type} (l : List (Option α)) (r : List α) : Space.optAll l = some r ↔ l = r.map some := by
  fun_induction Space.optAll l generalizing r with
  | case1 => cases r <;> simp
  | case2 => cases r <;> simp
  | case3 a rest ih => cases r <;> simp [ih, and_comm]

theorem optAll_map_range {α : Type} (f : Nat → Option α) (n : Nat) (rs : List α) :
    Space.optAll ((List.range n).map f) = some rs ↔ (rs.length = n ∧ ∀ k, k < n → f k = rs[k]?) := by
  rw [optAll_eq_some, List.ext_getElem_iff]
  simp only [List.length_map, List.length_range, List.getElem_map, List.getElem_range]
  constructor
  · rintro ⟨rfl, h⟩
    exact ⟨rfl, fun k hk => (h k hk hk).trans (List.getElem?_eq_getElem hk).symm⟩
  · rintro ⟨rfl, h⟩
    exact ⟨rfl, fun k hk _ => (h k hk).trans (List.getElem?_eq_getElem hk)⟩

/-! ### `Forall₂`, by positions -/

theorem forall₂_mem_left {α β : Type} {R : α → β → Prop} {as : List α} {bs : List β}
    (h : List.Forall₂ R as bs) {a : α} (ha : a ∈ as) : ∃ b ∈ bs, R a b := by
  obtain ⟨i, hi, rfl⟩ := List.getElem_of_mem ha
  exact ⟨bs[i]'(h.length_eq ▸ hi), List.getElem_mem _, h.get hi _⟩

theorem forall₂_imp_mem {α β : Type} {R S : α → β → Prop} {as : List α} {bs : List β}
    (h : List.Forall₂ R as bs) (H : ∀ a b, a ∈ as → b ∈ bs → R a b → S a b) : List.Forall₂ S as bs :=
  List.forall₂_iff_get.2 ⟨h.length_eq, fun _ h1 h2 => H _ _ (List.get_mem ..) (List.get_mem ..) (h.get h1 h2)⟩

theorem forall₂_pairwise {α β : Type} {R : α → β → Prop} {P : β → β → Prop} {Q : α → α → Prop}
    {as : List α} {bs : List β} (h : List.Forall₂ R as bs) (hp : bs.Pairwise P)
    (hq : ∀ a b a' b', R a b → R a' b' → P b b' → Q a a') : as.Pairwise Q := by
  rw [List.pairwise_iff_getElem] at hp ⊢
  intro i j hi hj hij
  have hl := h.length_eq
  exact hq _ _ _ _ (h.get hi (hl ▸ hi)) (h.get hj (hl ▸ hj)) (hp i j _ _ hij)

end Dna.Cart
