/-
`MutationChoice.merge_with`: on a contiguous list of choices it returns their span with the variants `mergeCore`
(`mergeWith_contig`); these are exactly the words that every choice involved accepts (`mergeCore_exact`; for the
segments of a word of the whole sequence, `mergeCore_language`), without duplicates (`mergeCore_nodup`).  The notion
underneath: for a contiguous list of choices, cutting a word at their offsets (`cuts`) is inverse to `List.flatten`.
Also here, though not about merging: `dedup` (Python's `set(...)` of a list), which `from_optimization_problem` applies
to the variants and to the choices it hands to `merge_with`.
-/
import DnaModel.Model.Space
import DnaModel.Proofs.Cart
import DnaModel.Proofs.Slice
namespace Dna.Merge
open Dna Choice

/-- `s[a : a + n]`; the same as `win` (`sl_eq_win`) -/
def sl (s : Seq) (a n : Nat) : Seq := (s.drop a).take n

theorem sl_eq_win (s : Seq) (a n : Nat) : sl s a n = win s a n := rfl

theorem seg_eq_sl (c : Choice) (t : Seq) : c.seg t = sl t c.start (c.stop - c.start) := rfl

theorem seg_eq_win (c : Choice) (t : Seq) : c.seg t = win t c.start (c.stop - c.start) := rfl

/-- the part `[x, y)` of the window `[p, q)`, every position counted from `a`; `x ≤ y` is not asked -/
theorem sl_sl_sub {t : Seq} {a p q x y : Nat} (ha : a ≤ p) (hp : p ≤ x) (hq : y ≤ q) :
    sl (sl t (p - a) (q - p)) (x - p) (y - x) = sl t (x - a) (y - x) := by
  rcases Nat.lt_or_ge y x with h | h
  · rw [Nat.sub_eq_zero_of_le (Nat.le_of_lt h)]
    rfl
  · have hw : x - p + (y - x) ≤ q - p := by
      rw [Nat.add_comm, Nat.sub_add_sub_cancel h hp]
      exact Nat.sub_le_sub_right hq p
    rw [sl_eq_win, sl_eq_win, sl_eq_win, win_win _ _ hw, Nat.add_comm, Nat.sub_add_sub_cancel hp ha]

theorem sl_sl {t : Seq} {a e x y : Nat} (h1 : a ≤ x) (h2 : y ≤ e) : sl (sl t a (e - a)) (x - a) (y - x) = sl t x (y - x) :=
  sl_sl_sub (Nat.zero_le a) h1 h2

/-! ### `dedup` (Python `set(...)` of a list) -/

theorem mem_dedup {α : Type} [BEq α] [LawfulBEq α] (l : List α) (x : α) : x ∈ dedup l ↔ x ∈ l := by
  induction l with
  | nil => rfl
  | cons a as ih =>
    simp only [dedup]
    split
    · rename_i hc
      rw [ih, List.mem_cons]
      exact ⟨Or.inr, fun h => h.elim (fun e => e ▸ List.contains_iff_mem.1 hc) id⟩
    · rw [List.mem_cons, List.mem_cons, ih]

theorem dedup_nodup {α : Type} [BEq α] [LawfulBEq α] (l : List α) : (dedup l).Nodup := by
  induction l with
  | nil => exact List.nodup_nil
  | cons a as ih =>
    simp only [dedup]
    split
    · exact ih
    · rename_i hc
      exact List.nodup_cons.2 ⟨fun h => hc (List.contains_iff_mem.2 ((mem_dedup as a).1 h)), ih⟩

/-- `dedup` keeps the LAST occurrence, hence `c ∉ L` -/
theorem dedup_replicate_append {α : Type} [BEq α] [LawfulBEq α] (c : α) (k : Nat) (L : List α) (hk : 0 < k) (h : c ∉ L) :
    dedup (List.replicate k c ++ L) = c :: dedup L := by
  induction k with
  | zero => exact absurd hk (Nat.lt_irrefl 0)
  | succ k ih =>
    rw [List.replicate_succ, List.cons_append, dedup]
    rcases Nat.eq_zero_or_pos k with rfl | hk'
    · simp [h]
    · rw [if_pos (by simp [Nat.ne_of_gt hk']), ih hk']

theorem dedup_length_le {α : Type} [BEq α] (l : List α) : (dedup l).length ≤ l.length := by
  induction l with
  | nil => exact Nat.le_refl 0
  | cons a as ih =>
    rw [dedup]
    split
    · exact Nat.le_succ_of_le ih
    · exact Nat.succ_le_succ ih

theorem nodup_of_dedup_length {α : Type} [BEq α] [LawfulBEq α] (l : List α) (h : (dedup l).length = l.length) :
    l.Nodup := by
  induction l with
  | nil => exact List.nodup_nil
  | cons a as ih =>
    rw [dedup] at h
    split at h
    · exact absurd (h ▸ dedup_length_le as) (Nat.not_succ_le_self _)
    · exact List.nodup_cons.2 ⟨fun hm => ‹¬ _› (List.contains_iff_mem.2 hm), ih (Nat.succ.inj h)⟩

/-! ### contiguous lists of choices -/

/-- contiguous from `a`: each starts where the previous one stops -/
def Contig : Nat → List Choice → Prop
  | _, [] => True
  | a, o :: os => o.start = a ∧ o.start ≤ o.stop ∧ Contig o.stop os

/-- where a contiguous list that starts at `a` ends -/
def stopOf : Nat → List Choice → Nat
  | a, [] => a
  | _, o :: os => stopOf o.stop os

theorem contig_le_stopOf {a : Nat} {os : List Choice} (h : Contig a os) : a ≤ stopOf a os := by
  induction os generalizing a with
  | nil => exact Nat.le_refl a
  | cons o os ih => exact h.1 ▸ Nat.le_trans h.2.1 (ih h.2.2)

theorem contig_mem {a : Nat} {os : List Choice} (h : Contig a os) {o : Choice} (ho : o ∈ os) :
    a ≤ o.start ∧ o.start ≤ o.stop ∧ o.stop ≤ stopOf a os := by
  induction os generalizing a with
  | nil => cases ho
  | cons x os ih =>
    obtain ⟨rfl, h2, h3⟩ := h
    rcases List.mem_cons.1 ho with rfl | ho
    · exact ⟨Nat.le_refl _, h2, contig_le_stopOf h3⟩
    · exact ⟨Nat.le_trans h2 (ih h3 ho).1, (ih h3 ho).2⟩

theorem contig_cover {a : Nat} {os : List Choice} (h : Contig a os) (i : Nat) (h1 : a ≤ i) (h2 : i < stopOf a os) :
    ∃ o ∈ os, o.start ≤ i ∧ i < o.stop := by
  induction os generalizing a with
  | nil => exact absurd h2 (Nat.not_lt.2 h1)
  | cons o os ih =>
    obtain ⟨rfl, _, e3⟩ := h
    rcases Nat.lt_or_ge i o.stop with hi | hi
    · exact ⟨o, List.mem_cons_self, h1, hi⟩
    · obtain ⟨x, hx, hx'⟩ := ih e3 hi h2
      exact ⟨x, List.mem_cons_of_mem _ hx, hx'⟩

theorem contig_pairwise {a : Nat} {os : List Choice} (h : Contig a os) :
    os.Pairwise (fun x y => x.stop ≤ y.start) := by
  induction os generalizing a with
  | nil => exact List.Pairwise.nil
  | cons o os ih =>
    obtain ⟨e1, e2, e3⟩ := h
    exact List.Pairwise.cons (fun y hy => (contig_mem e3 hy).1) (ih e3)

theorem contig_sorted {a : Nat} {os : List Choice} (h : Contig a os) :
    os.Pairwise (fun x y => (decide (x.start ≤ y.start)) = true) :=
  (List.Pairwise.and_mem.1 (contig_pairwise h)).imp
    (fun ⟨hx, _, hxy⟩ => decide_eq_true (Nat.le_trans (contig_mem h hx).2.1 hxy))

theorem stopOf_last (first : Choice) (rest : List Choice) :
    ∃ l, (first :: rest).getLast? = some l ∧ l ∈ first :: rest ∧ l.stop = stopOf first.start (first :: rest) := by
  induction rest generalizing first with
  | nil => exact ⟨first, rfl, by simp, rfl⟩
  | cons r rs ih =>
    obtain ⟨l, hl1, hl2, hl3⟩ := ih r
    exact ⟨l, by simpa [List.getLast?_cons_cons] using hl1, List.mem_cons_of_mem _ hl2, hl3⟩

/-! ### cutting a word into pieces of given lengths -/

def chop {α : Type} : List Nat → List α → List (List α)
  | [], _ => []
  | n :: ns, w => w.take n :: chop ns (w.drop n)

theorem flatten_chop {α : Type} (ns : List Nat) (w : List α) (h : w.length ≤ ns.sum) : (chop ns w).flatten = w := by
  induction ns generalizing w with
  | nil => simpa [chop] using h
  | cons n ns ih =>
    rw [chop, List.flatten_cons, ih _ (List.length_drop ▸ Nat.sub_le_iff_le_add'.2 h), List.take_append_drop]

theorem chop_flatten {α : Type} (ps : List (List α)) : chop (ps.map List.length) ps.flatten = ps := by
  induction ps with
  | nil => rfl
  | cons p ps ih => rw [List.map_cons, chop, List.flatten_cons, List.take_left' rfl, List.drop_left' rfl, ih]

/-! ### cutting a word at the offsets of a contiguous list of choices -/

def widths (os : List Choice) : List Nat := os.map (fun o => o.stop - o.start)

def cuts (a : Nat) (os : List Choice) (w : Seq) : List Seq := os.map (fun o => sl w (o.start - a) (o.stop - o.start))

abbrev HasWidths (pieces : List Seq) (os : List Choice) : Prop :=
  List.Forall₂ (fun p o => p.length = o.stop - o.start) pieces os

theorem HasWidths.map_length_eq {pieces : List Seq} {os : List Choice} (h : HasWidths pieces os) :
    pieces.map List.length = widths os := by
  rw [← List.forall₂_eq_eq_eq]
  exact List.forall₂_map_left_iff.2 (List.forall₂_map_right_iff.2 h)

theorem sum_widths (a : Nat) (os : List Choice) (hc : Contig a os) : (widths os).sum = stopOf a os - a := by
  induction os generalizing a with
  | nil => exact (Nat.sub_self a).symm
  | cons o os ih =>
    obtain ⟨rfl, h2, h3⟩ := hc
    rw [widths, List.map_cons, List.sum_cons, ← widths, ih o.stop h3, Nat.add_comm]
    exact Nat.sub_add_sub_cancel (contig_le_stopOf h3) h2

theorem cuts_eq (a : Nat) (os : List Choice) (w : Seq) (hc : Contig a os) : cuts a os w = chop (widths os) w := by
  induction os generalizing a w with
  | nil => rfl
  | cons o os ih =>
    obtain ⟨rfl, h2, h3⟩ := hc
    rw [widths, List.map_cons, chop, ← widths, ← ih o.stop _ h3, cuts, List.map_cons, Nat.sub_self]
    refine congrArg _ (List.map_congr_left fun o' ho' => ?_)
    rw [sl, sl, List.drop_drop, Nat.add_comm, Nat.sub_add_sub_cancel (contig_mem h3 ho').1 h2]

theorem cuts_flatten (a : Nat) (os : List Choice) (pieces : List Seq) (hc : Contig a os) (hl : HasWidths pieces os) :
    cuts a os pieces.flatten = pieces := by
  rw [cuts_eq a os _ hc, ← hl.map_length_eq, chop_flatten]

theorem flatten_cuts (a : Nat) (os : List Choice) (w : Seq) (hc : Contig a os) (hw : w.length = stopOf a os - a) :
    (cuts a os w).flatten = w := by
  rw [cuts_eq a os _ hc, flatten_chop _ _ (by rw [sum_widths a os hc, hw]; exact Nat.le_refl _)]

theorem flatten_inj (os : List Choice) (a b : List Seq) (ha : HasWidths a os) (hb : HasWidths b os) (h : a.flatten = b.flatten) :
    a = b := by
  rw [← chop_flatten a, ← chop_flatten b, ha.map_length_eq, hb.map_length_eq, h]

theorem forall₂_cuts (P : Seq → Choice → Prop) (a : Nat) (os : List Choice) (w : Seq) :
    List.Forall₂ P (cuts a os w) os ↔ ∀ o ∈ os, P (sl w (o.start - a) (o.stop - o.start)) o := by
  rw [cuts, List.forall₂_map_left_iff, List.forall₂_same]

/-! ### `merge_with` -/

/-- the left-hand side is the `filterMap` body of `mergeCore` -/
theorem keep_eq_some (self : Choice) (ostart : Nat) (cand : Seq) (subseqs : List Seq) (w : Seq) :
    (if (subseqs.flatten.drop (self.start - ostart)).take (self.stop - self.start) == cand
      then some subseqs.flatten else none) = some w ↔
    subseqs.flatten = w ∧ sl w (self.start - ostart) (self.stop - self.start) = cand := by
  rw [Option.ite_none_right_eq_some, Option.some.injEq, beq_iff_eq, and_comm]
  exact and_congr_right fun e => by rw [← e, sl]

theorem mem_mergeCore (self : Choice) (ostart : Nat) (others : List Choice) (sq : Seq) :
    sq ∈ mergeCore self ostart others ↔
      ∃ cand ∈ self.variants, ∃ subseqs : List Seq,
        List.Forall₂ (fun p o => p ∈ compatSlot self cand o) subseqs others ∧ subseqs.flatten = sq ∧
        sl sq (self.start - ostart) (self.stop - self.start) = cand := by
  simp only [mergeCore, List.mem_flatMap, List.mem_filterMap, Cart.mem_cartesian, List.forall₂_map_right_iff,
    keep_eq_some]

theorem widths_of_compat (self : Choice) (cand : Seq) (others : List Choice) (subseqs : List Seq)
    (hov : ∀ o ∈ others, ∀ v ∈ o.variants, v.length = o.stop - o.start)
    (hf : List.Forall₂ (fun p o => p ∈ compatSlot self cand o) subseqs others) : HasWidths subseqs others :=
  Cart.forall₂_imp_mem hf fun p o _ ho hp => hov o ho p (List.mem_filter.1 hp).1

theorem forall₂_mem_of_eq {α β : Type} (R : α → β → Prop) (P : β → α → Prop) (xs : List α) (ys : List β)
    (h1 : List.Forall₂ R xs ys) (h2 : ∀ x y, R x y → P y x) : ∀ y ∈ ys, ∃ x, R x y ∧ P y x := by
  induction h1 with
  | nil => simp
  | cons hxy _ ih =>
    intro y hy
    rcases List.mem_cons.1 hy with rfl | hy
    · exact ⟨_, hxy, h2 _ _ hxy⟩
    · exact ih y hy

/-- the window of `o` and the window of `self` in a word agree on the overlap of the two -/
theorem overlap_cut (self o : Choice) (a : Nat) (w : Seq) (h1 : a ≤ self.start) (h2 : a ≤ o.start) :
    overlapSlice o (sl w (o.start - a) (o.stop - o.start)) self.start self.stop =
      sl (sl w (self.start - a) (self.stop - self.start)) (max o.start self.start - self.start)
        (min o.stop self.stop - max o.start self.start) :=
  (sl_sl_sub h2 (Nat.le_max_left ..) (Nat.min_le_left ..)).trans
    (sl_sl_sub h1 (Nat.le_max_right ..) (Nat.min_le_right ..)).symm

/-- **`merge_with` is exact**: when the other choices tile a span and `self` starts inside it, the merged variants are
    exactly the words of the span whose window on `self` and on every other choice is a variant of that choice -/
theorem mergeCore_exact (self : Choice) (ostart : Nat) (others : List Choice) (sq : Seq)
    (hc : Contig ostart others) (h1 : ostart ≤ self.start)
    (hov : ∀ o ∈ others, ∀ v ∈ o.variants, v.length = o.stop - o.start) :
    sq ∈ mergeCore self ostart others ↔
      sq.length = stopOf ostart others - ostart ∧
      sl sq (self.start - ostart) (self.stop - self.start) ∈ self.variants ∧
      ∀ o ∈ others, sl sq (o.start - ostart) (o.stop - o.start) ∈ o.variants := by
  rw [mem_mergeCore]
  constructor
  · -- the pieces are the cuts of their concatenation
    rintro ⟨cand, hcand, subseqs, hf, rfl, rfl⟩
    have hlen := widths_of_compat self _ others subseqs hov hf
    rw [← cuts_flatten ostart others subseqs hc hlen, forall₂_cuts] at hf
    exact ⟨by rw [List.length_flatten, hlen.map_length_eq, sum_widths ostart others hc], hcand,
      fun o ho => (List.mem_filter.1 (hf o ho)).1⟩
  · -- the cuts of the word are compatible pieces whose concatenation is the word
    rintro ⟨hlen, hself, hoth⟩
    refine ⟨_, hself, cuts ostart others sq, (forall₂_cuts _ ostart others sq).2 fun o ho => ?_,
      flatten_cuts ostart others sq hc hlen, rfl⟩
    exact List.mem_filter.2
      ⟨hoth o ho, beq_iff_eq.2 (overlap_cut self o ostart sq h1 (contig_mem hc ho).1)⟩

/-- the same, for the window on the span of a word `t` of the whole sequence -/
theorem mergeCore_language (self : Choice) (a : Nat) (os : List Choice) (t : Seq)
    (hc : Contig a os) (h1 : a ≤ self.start) (h2 : self.stop ≤ stopOf a os)
    (hov : ∀ o ∈ os, ∀ v ∈ o.variants, v.length = o.stop - o.start) (ht : stopOf a os ≤ t.length) :
    sl t a (stopOf a os - a) ∈ mergeCore self a os ↔ self.seg t ∈ self.variants ∧ ∀ o ∈ os, o.seg t ∈ o.variants := by
  have hlen : (sl t a (stopOf a os - a)).length = stopOf a os - a :=
    length_win_of_le t ((Nat.add_sub_cancel' (contig_le_stopOf hc)).symm ▸ ht)
  have hoth : ∀ o ∈ os, sl (sl t a (stopOf a os - a)) (o.start - a) (o.stop - o.start) = o.seg t := fun o ho =>
    sl_sl (contig_mem hc ho).1 (contig_mem hc ho).2.2
  rw [mergeCore_exact self a os _ hc h1 hov, sl_sl h1 h2, ← seg_eq_sl]
  exact ⟨fun ⟨_, hs, ho⟩ => ⟨hs, fun o hm => hoth o hm ▸ ho o hm⟩,
    fun ⟨hs, ho⟩ => ⟨hlen, hs, fun o hm => (hoth o hm).symm ▸ ho o hm⟩⟩

theorem mergeCore_nodup (self : Choice) (ostart : Nat) (others : List Choice)
    (hs : self.variants.Nodup) (ho : ∀ o ∈ others, o.variants.Nodup)
    (hov : ∀ o ∈ others, ∀ v ∈ o.variants, v.length = o.stop - o.start) :
    (mergeCore self ostart others).Nodup := by
  simp only [mergeCore]
  rw [List.nodup_flatMap]
  constructor
  · -- one candidate: distinct tuples of pieces have distinct concatenations
    intro cand _
    have hcart : (cartesian (others.map (compatSlot self cand))).Nodup := by
      refine Cart.nodup_cartesian _ fun l hl => ?_
      obtain ⟨o, hom, rfl⟩ := List.mem_map.1 hl
      exact (ho o hom).filter _
    refine List.Pairwise.filterMap _ ?_ (List.Pairwise.and_mem.1 hcart)
    rintro a a' ⟨ha, ha', hne⟩ b hb b' hb' rfl
    have hw : ∀ x ∈ cartesian (others.map (compatSlot self cand)), HasWidths x others := fun x hx =>
      widths_of_compat self cand others x hov (List.forall₂_map_right_iff.1 ((Cart.mem_cartesian _ _).1 hx))
    exact hne (flatten_inj others a a' (hw a ha) (hw a' ha')
      (((keep_eq_some self ostart cand a b).1 hb).1.trans ((keep_eq_some self ostart cand a' b).1 hb').1.symm))
  · -- two candidates: a word kept for `cand` has `cand` as its `self` window
    refine hs.imp ?_
    intro c1 c2 hne
    simp only [List.disjoint_left, List.mem_filterMap]
    rintro x ⟨u, _, hu⟩ ⟨v, _, hv⟩
    exact hne (((keep_eq_some self ostart c1 u x).1 hu).2.symm.trans ((keep_eq_some self ostart c2 v x).1 hv).2)

/-- contiguous choices are already sorted by start, so the `mergeSort` of `mergeWith` does nothing -/
theorem mergeWith_contig (self first : Choice) (rest : List Choice) (hc : Contig first.start (first :: rest)) :
    self.mergeWith (first :: rest) =
      some { start := first.start, stop := stopOf first.start (first :: rest),
             variants := mergeCore self first.start (first :: rest) } := by
  have hsorted : (first :: rest).mergeSort (fun a b => decide (a.start ≤ b.start)) = first :: rest :=
    List.mergeSort_of_pairwise (contig_sorted hc)
  obtain ⟨l, hl1, _, hl2⟩ := stopOf_last first rest
  simp only [mergeWith, hsorted, List.head?_cons, hl1, hl2]

end Dna.Merge
