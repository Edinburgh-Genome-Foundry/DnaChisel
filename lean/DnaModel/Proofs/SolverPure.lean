/-
Lemmas about the solver model that the property files share.

* For arbitrary specifications: what one `evalAt` call returns, that the evaluating loops fail only with a
  specification's exception (`*_err`), and `SameObs`, the relation between the states before and after a loop that only
  evaluates (for `allPass`, `scoresSum`, `constraintsEvaluations` it is part of the `_pure` lemmas).
* For *pure, total* specifications (`PureEval`): `evaluate` is a function `ev` of (object, sequence), independent of
  the call index, and never raises; the evaluating loops then compute `feasible` / `total`.
* `LawfulScore`: the order laws on scores that the optimisation theorems need, and the instance for `Int`.
-/
import DnaModel.Model.Solver
set_option linter.unusedSectionVars false

/-! ### single calls, arbitrary specifications -/

namespace Dna.Solver
variable {σ K : Type} [BEq σ] [Score K]

theorem evalAt_of_evaluate {ops : SpecOps σ K} {c : σ} {s : Seq} {st : St σ K} {e : Eval K}
    (h : ops.evaluate c s st.nEval = .ok e) : evalAt ops c s st = (.ok e, { st with nEval := st.nEval + 1 }) := by
  simp only [evalAt, h, liftFault]

theorem evalAt_ok {ops : SpecOps σ K} {c : σ} {s : Seq} {st st' : St σ K} {e : Eval K}
    (h : evalAt ops c s st = (.ok e, st')) : ops.evaluate c s st.nEval = .ok e := by
  simp only [evalAt] at h
  cases hev : ops.evaluate c s st.nEval with
  | error n => rw [hev] at h; cases h
  | ok e' => rw [hev] at h; cases h; rfl

theorem evalAt_err {ops : SpecOps σ K} {c : σ} {s : Seq} {st st' : St σ K} {e : Err}
    (h : evalAt ops c s st = (.error e, st')) : ∃ n, e = .fault n := by
  simp only [evalAt] at h
  cases hev : ops.evaluate c s st.nEval with
  | error n => rw [hev] at h; cases h; exact ⟨n, rfl⟩
  | ok e' => rw [hev] at h; cases h

theorem evaluateAll_err {ops : SpecOps σ K} {s : Seq} {cs : List σ} {st st' : St σ K} {e : Err}
    (h : evaluateAll ops s cs st = (.error e, st')) : ∃ n, e = .fault n := by
  revert h
  fun_induction evaluateAll ops s cs st with
  | case1 => nofun
  | case2 =>
    rename_i hev
    rintro ⟨⟩
    exact evalAt_err hev
  | case3 =>
    rename_i ih
    exact ih

theorem allPass_err {ops : SpecOps σ K} {s : Seq} {cs : List σ} {st st' : St σ K} {e : Err}
    (h : allPass ops s cs st = (.error e, st')) : ∃ n, e = .fault n := by
  revert h
  fun_induction allPass ops s cs st with
  | case1 | case4 => nofun
  | case2 =>
    rename_i hev
    rintro ⟨⟩
    exact evalAt_err hev
  | case3 =>
    rename_i ih
    exact ih

theorem newLocal_space {ops : SpecOps σ K} {s : Seq} {cs os : List σ} {sp : Space} {st st' : St σ K} {LF : Frame σ}
    (h : newLocal ops s cs os sp st = (.ok LF, st')) : LF.space = sp := by
  revert h
  fun_cases newLocal ops s cs os sp st with
  | case1 | case2 => nofun
  | case3 =>
    rintro ⟨⟩
    rfl

end Dna.Solver

namespace Dna.Pure
open Dna Solver
variable {σ K : Type} [BEq σ] [Score K]

/-- the state apart from the call counters (`nEval`, `nAlloc`, `nHeur`) -/
def SameObs (st st' : St σ K) : Prop := st'.tape = st.tape ∧ st'.trace = st.trace ∧ st'.shared = st.shared

theorem SameObs.rfl' (st : St σ K) : SameObs st st := ⟨rfl, rfl, rfl⟩
theorem SameObs.trans' {a b c : St σ K} (h1 : SameObs a b) (h2 : SameObs b c) : SameObs a c :=
  ⟨h2.1.trans h1.1, h2.2.1.trans h1.2.1, h2.2.2.trans h1.2.2⟩

theorem evalAt_sameObs (ops : SpecOps σ K) (c : σ) (s : Seq) (st : St σ K) : SameObs st (evalAt ops c s st).2 :=
  ⟨rfl, rfl, rfl⟩

theorem evaluateAll_sameObs (ops : SpecOps σ K) (s : Seq) (cs : List σ) (st : St σ K) :
    SameObs st (evaluateAll ops s cs st).2 := by
  fun_induction evaluateAll ops s cs st with
  | case1 => exact .rfl' _
  | case2 =>
    rename_i hev
    exact (hev ▸ evalAt_sameObs ops _ s _ :)
  | case3 =>
    rename_i hev ih
    exact .trans' (hev ▸ evalAt_sameObs ops _ s _ :) ih

theorem finalCheck_sameObs (ops : SpecOps σ K) (s : Seq) (all cs : List σ) (st : St σ K) :
    SameObs st (finalCheck ops s all cs st).2 := by
  fun_induction finalCheck ops s all cs st with
  | case1 => exact .rfl' _
  | case2 =>
    rename_i hev
    exact (hev ▸ evalAt_sameObs ops _ s _ :)
  | case3 =>
    rename_i hev _ ih
    exact .trans' (hev ▸ evalAt_sameObs ops _ s _ :) ih
  -- in the last two cases the constraints are evaluated again for the text of the error message
  | case4 =>
    rename_i hev _ _ _ hall
    exact .trans' (hev ▸ evalAt_sameObs ops _ s _ :) (hall ▸ evaluateAll_sameObs ops s all _ :)
  | case5 =>
    rename_i hev _ _ hall
    exact .trans' (hev ▸ evalAt_sameObs ops _ s _ :) (hall ▸ evaluateAll_sameObs ops s all _ :)

/-! ### pure, total specifications -/

def PureEval (ops : SpecOps σ K) (ev : σ → Seq → Eval K) : Prop :=
  ∀ c s k, ops.evaluate c s k = .ok (ev c s)

theorem evalAt_pure {ops : SpecOps σ K} {ev} (hp : PureEval ops ev) (c : σ) (s : Seq) (st : St σ K) :
    evalAt ops c s st = (.ok (ev c s), { st with nEval := st.nEval + 1 }) :=
  evalAt_of_evaluate (hp c s st.nEval)

theorem allPass_pure {ops : SpecOps σ K} {ev} (hp : PureEval ops ev) (s : Seq) (cs : List σ) (st : St σ K) :
    ∃ st', allPass ops s cs st = (.ok (cs.all (fun c => (ev c s).passes)), st') ∧ SameObs st st' := by
  induction cs generalizing st with
  | nil => exact ⟨st, rfl, SameObs.rfl' st⟩
  | cons c cs ih =>
    simp only [allPass, evalAt_pure hp, List.all_cons]
    cases hc : (ev c s).passes with
    | false => exact ⟨{ st with nEval := st.nEval + 1 }, rfl, rfl, rfl, rfl⟩
    | true => exact ih { st with nEval := st.nEval + 1 }

/-- `all_constraints_pass()` (autopass) as a predicate on sequences.  The model's filter `!autopass || !enforced c`
    reduces at `autopass := true` to the `!enforced c` written here: `allConstraintsPass_pure` relies on that -/
def feasible (ops : SpecOps σ K) (ev : σ → Seq → Eval K) (F : Frame σ) (s : Seq) : Bool :=
  (F.constraints.filter (fun c => !ops.enforced c)).all (fun c => (ev c s).passes)

theorem allConstraintsPass_pure {ops : SpecOps σ K} {ev} (hp : PureEval ops ev) (F : Frame σ) (s : Seq) (st : St σ K) :
    ∃ st', allConstraintsPass ops F s st = (.ok (feasible ops ev F s), st') ∧ SameObs st st' :=
  allPass_pure hp s _ st

/-- boost-weighted total, as `scoresSum` computes it (left fold from `acc`) -/
def totalFrom (ops : SpecOps σ K) (ev : σ → Seq → Eval K) (s : Seq) (os : List σ) (acc : K) : K :=
  os.foldl (fun a o => Score.add a (Score.mul (ops.boost o) (ev o s).score)) acc

def total (ops : SpecOps σ K) (ev : σ → Seq → Eval K) (F : Frame σ) (s : Seq) : K :=
  totalFrom ops ev s F.objectives Score.zero

theorem scoresSum_pure {ops : SpecOps σ K} {ev} (hp : PureEval ops ev) (s : Seq) (os : List σ) (acc : K) (st : St σ K) :
    ∃ st', scoresSum ops s os acc st = (.ok (totalFrom ops ev s os acc), st') ∧ SameObs st st' := by
  induction os generalizing acc st with
  | nil => exact ⟨st, rfl, SameObs.rfl' st⟩
  | cons o os ih =>
    simp only [scoresSum, evalAt_pure hp, totalFrom, List.foldl_cons]
    exact ih _ _

theorem objectiveScoresSum_pure {ops : SpecOps σ K} {ev} (hp : PureEval ops ev) (F : Frame σ) (s : Seq) (st : St σ K) :
    ∃ st', objectiveScoresSum ops F s st = (.ok (total ops ev F s), st') ∧ SameObs st st' :=
  scoresSum_pure hp s F.objectives Score.zero st

theorem constraintsEvaluations_pure {ops : SpecOps σ K} {ev} (hp : PureEval ops ev) (s : Seq) (cs : List σ) (st : St σ K) :
    ∃ r st', constraintsEvaluations ops s cs st = (.ok r, st') ∧ SameObs st st' := by
  induction cs generalizing st with
  | nil => exact ⟨[], st, rfl, SameObs.rfl' st⟩
  | cons c cs ih =>
    simp only [constraintsEvaluations, evalAt_pure hp]
    split
    · obtain ⟨r, st', h1, h2⟩ := ih st
      exact ⟨none :: r, st', by rw [h1], h2⟩
    · obtain ⟨r, st', h1, h2⟩ := ih { st with nEval := st.nEval + 1 }
      exact ⟨some (ev c s) :: r, st', by rw [h1], h2⟩

class LawfulScore (K : Type) [Score K] : Prop where
  lt_irrefl : ∀ a : K, Score.lt a a = false
  lt_trans : ∀ a b c : K, Score.lt a b = true → Score.lt b c = true → Score.lt a c = true
  le_iff_not_lt : ∀ a b : K, Score.le a b = true ↔ Score.lt b a = false
  /-- `a < b ≤ c → a < c` -/
  lt_of_lt_of_not_lt : ∀ a b c : K, Score.lt a b = true → Score.lt c b = false → Score.lt a c = true

section order
variable [LawfulScore K] {a b c : K}

/-- "`b` is not lower than `a`" is `Score.lt b a = false` -/
theorem notLower_trans (h1 : Score.lt b a = false) (h2 : Score.lt c b = false) : Score.lt c a = false := by
  cases hx : Score.lt c a with
  | false => rfl
  | true => rw [LawfulScore.lt_of_lt_of_not_lt c a b hx h1] at h2; cases h2

theorem notLower_of_lt (h : Score.lt a b = true) : Score.lt b a = false := by
  cases hx : Score.lt b a with
  | false => rfl
  | true => exact absurd (LawfulScore.lt_trans _ _ _ h hx) (ne_true_of_eq_false (LawfulScore.lt_irrefl _))

end order

instance : LawfulScore Int where
  lt_irrefl a := by simp [Score.lt]
  lt_trans a b c h1 h2 := by simp only [Score.lt, decide_eq_true_eq] at *; omega
  le_iff_not_lt a b := by simp only [Score.le, Score.lt, decide_eq_true_eq, decide_eq_false_iff_not]; omega
  lt_of_lt_of_not_lt a b c h1 h2 := by
    simp only [Score.lt, decide_eq_true_eq, decide_eq_false_iff_not] at *; omega

end Dna.Pure
