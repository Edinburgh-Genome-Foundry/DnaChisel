import DnaModel.Props.C01
#print axioms Dna.C01.finalCheck_ok
#print axioms Dna.C01.finalCheck_err
#print axioms Dna.C01.resolve_ok_all_pass
#print axioms Dna.C01.resolve_all_enforced
#print axioms Dna.C01.resolve_ok_all_pass_enforced
