import DnaModel.Props.C20
#print axioms Dna.C20.passes_iff_nonneg
#print axioms Dna.C20.passes_iff_nonneg_int
#print axioms Dna.C20.atBest_iff
#print axioms Dna.C20.avoidPattern_le_best
#print axioms Dna.C20.enforceChoice_le_best
#print axioms Dna.C20.lengthBounds_le_best
#print axioms Dna.C20.gc_score_shape
#print axioms Dna.C20.stopCodons_le_best
#print axioms Dna.C20.translation_le_best
#print axioms Dna.C20.enforceSequence_le_best
#print axioms Dna.C20.avoidChanges_le_best
#print axioms Dna.C20.hairpins_le_best
#print axioms Dna.C20.patternOccurence_le_best
#print axioms Dna.C20.gc_le_best
#print axioms Dna.C20.goal_met_of_passes
#print axioms Dna.C20.avoidChanges_goal_met
#print axioms Dna.C20.enforceSequence_goal_met
#print axioms Dna.C20.gc_goal_met
#print axioms Dna.C20.stopCodons_goal_met
#print axioms Dna.C20.translation_goal_met
