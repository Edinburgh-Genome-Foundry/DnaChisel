import DnaModel.Props.C19
#print axioms Dna.C19.compChar_involutive_table
#print axioms Dna.C19.compChar_closed
#print axioms Dna.C19.iupac_in_csv
#print axioms Dna.C19.csv_bio_agree
#print axioms Dna.C19.csv_keys_unique
#print axioms Dna.C19.rc_involutive
#print axioms Dna.C19.rc_length
#print axioms Dna.C19.rc_mem_iupac
#print axioms Dna.C19.rc_basewise
#print axioms Dna.C19.rc_win
#print axioms Dna.C19.complementCsv_eq
#print axioms Dna.C19.complementBio_eq
#print axioms Dna.C19.reverseComplement_eq_rc
#print axioms Dna.C19.reverseComplement_involutive
#print axioms Dna.C19.tables_roundtrip
#print axioms Dna.C19.chunk3_append3
#print axioms Dna.C19.translate_reverseTranslate_of_good
#print axioms Dna.C19.translate_reverseTranslate
#print axioms Dna.C19.dual_use_counterexample
#print axioms Dna.C19.gcCount_append
#print axioms Dna.C19.gcCount_cons
#print axioms Dna.C19.gcCount_win
#print axioms Dna.C19.cons_cumsumFrom
#print axioms Dna.C19.cumsumFrom_length
#print axioms Dna.C19.gc_windows_eq_count
#print axioms Dna.C19.gc_windows_length
#print axioms Dna.C19.gcCount_le_length
#print axioms Dna.C19.diffArray_eq_zipWith
#print axioms Dna.C19.diffArray_length
#print axioms Dna.C19.diffArray_getElem?
#print axioms Dna.C19.diffCount_positions
#print axioms Dna.C19.OpenBefore.le
#print axioms Dna.C19.OpenBefore.succ
#print axioms Dna.C19.openBefore_none
#print axioms Dna.C19.runsFrom_cover
#print axioms Dna.C19.runsFrom_sorted
#print axioms Dna.C19.runsFrom_total
#print axioms Dna.C19.runs_cover
#print axioms Dna.C19.runs_sorted_separated
#print axioms Dna.C19.runs_total
#print axioms Dna.C19.diff_segments_cover
#print axioms Dna.C19.groupGo_flatten
#print axioms Dna.C19.groupSorted_flatten
#print axioms Dna.C19.groupGo_forall
#print axioms Dna.C19.groupSorted_forall
#print axioms Dna.C19.groupSorted_nonempty
#print axioms Dna.C19.groupOk_spec
#print axioms Dna.C19.chainR_concat
#print axioms Dna.C19.groupWithin_concat
#print axioms Dna.C19.groupSorted_within
#print axioms Dna.C19.lt_nPieces
#print axioms Dna.C19.rangeStep_eq
#print axioms Dna.C19.rangeStep_append_stop
#print axioms Dna.C19.subdivideWindow_eq
#print axioms Dna.C19.subdivide_spec
#print axioms Dna.C19.subdivide_length
