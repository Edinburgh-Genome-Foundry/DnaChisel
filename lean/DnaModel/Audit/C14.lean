import DnaModel.Props.C14
#print axioms Dna.C14.Untouched.trans
#print axioms Dna.C14.Untouched.of_sameObs
#print axioms Dna.C14.resolveConstraint_noop
#print axioms Dna.C14.resolveEach_noop
#print axioms Dna.C14.resolve_noop_sameObs
#print axioms Dna.C14.resolve_noop
#print axioms Dna.C14.resolve_noop_iter
#print axioms Dna.C14.optimizeObjective_noop
#print axioms Dna.C14.optimizeEach_noop
#print axioms Dna.C14.optimize_noop
