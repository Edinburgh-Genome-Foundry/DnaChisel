import DnaModel.Props.C02
#print axioms Dna.C02.mutate_tape
#print axioms Dna.C02.optRandomLoop_spec
#print axioms Dna.C02.optimizeRandom_spec
#print axioms Dna.C02.optimizeRandom_infeasible
#print axioms Dna.C02.optimizeExhaustive_spec
#print axioms Dna.C02.local_optimizers_preserve
#print axioms Dna.C02.localizeAt_pure
#print axioms Dna.C02.localizeAll_pure
#print axioms Dna.C02.initAll_pure
#print axioms Dna.C02.newLocal_pure
#print axioms Dna.C02.optimizeExhaustive_ok
#print axioms Dna.C02.optimizeRandom_ok
#print axioms Dna.C02.localOptimize_ok
#print axioms Dna.C02.span_bounds
#print axioms Dna.C02.closed_agreeOut
#print axioms Dna.C02.optimizeLocation_cases
#print axioms Dna.C02.optimize_preserves_feasible
