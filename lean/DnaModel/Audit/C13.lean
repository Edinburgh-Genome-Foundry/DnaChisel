import DnaModel.Props.C13
#print axioms Dna.C13.triple_length
#print axioms Dna.C13.triple_getElem?
#print axioms Dna.C13.cyclic_infix
#print axioms Dna.C13.occurs_across_origin
#print axioms Dna.C13.rotation_infix
#print axioms Dna.C13.loony_left
#print axioms Dna.C13.loony_mid
#print axioms Dna.C13.loony_right
#print axioms Dna.C13.consensus_length
#print axioms Dna.C13.majority_length
#print axioms Dna.C13.consensus_edit
#print axioms Dna.C13.consensus_triple
#print axioms Dna.C13.majority_triple
#print axioms Dna.C13.middle_triple
#print axioms Dna.C13.middle_length
#print axioms Dna.C13.evalList_all_pass
#print axioms Dna.C13.circFinalCheck_ok
#print axioms Dna.C13.circ_resolve_ok
#print axioms Dna.C13.buildView_seq
#print axioms Dna.C13.evalList_err
#print axioms Dna.C13.buildView_err
#print axioms Dna.C13.circFinalCheck_err
#print axioms Dna.C13.closed_length
#print axioms Dna.C13.circ_keeps_length
