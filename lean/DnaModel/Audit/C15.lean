import DnaModel.Props.C15
#print axioms Dna.C15.char_lt_iff
#print axioms Dna.C15.seqLt_iff
#print axioms Dna.C15.seqLe_iff
#print axioms Dna.C15.seqLt_irrefl
#print axioms Dna.C15.seqLe_total
#print axioms Dna.C15.seqLe_trans
#print axioms Dna.C15.seqLe_antisymm
#print axioms Dna.C15.sortSeqs_perm
#print axioms Dna.C15.sortSeqs_sorted
#print axioms Dna.C15.distLe_total
#print axioms Dna.C15.distLe_trans
#print axioms Dna.C15.head?_mergeSort
#print axioms Dna.C15.distTo_eq_zero
#print axioms Dna.C15.indexOf?_of_mem
#print axioms Dna.C15.variantsByDistance_spec
#print axioms Dna.C15.mcFits_iff
#print axioms Dna.C15.choicesFit_iff
#print axioms Dna.C15.mcFits_of_choicesFit
#print axioms Dna.C15.choicesFit_filter
#print axioms Dna.C15.mem_multichoices
#print axioms Dna.C15.multichoices_choicesFit
#print axioms Dna.C15.multichoices_fit
#print axioms Dna.C15.choicesFit_disjoint
#print axioms Dna.C15.choicesFit_nodup
#print axioms Dna.C15.cFits_of_mcFits
#print axioms Dna.C15.pySlice_seg
#print axioms Dna.C15.seg_eq_iff
#print axioms Dna.C15.seg_congr
#print axioms Dna.C15.seg_splice_self
#print axioms Dna.C15.splice_seg_id
#print axioms Dna.C15.seg_splice_other
#print axioms Dna.C15.seg_eq_of_getElem?
#print axioms Dna.C15.assigns_span
#print axioms Dna.C15.assigns_fits
#print axioms Dna.C15.applyMuts_readback
#print axioms Dna.C15.applyMuts_segs
#print axioms Dna.C15.readOff_eq_iff
#print axioms Dna.C15.assigns_readOff
#print axioms Dna.C15.applyMuts_injective
#print axioms Dna.C15.eq_of_readOff_eq
#print axioms Dna.C15.applyMuts_readOff
#print axioms Dna.C15.optAll_some
#print axioms Dna.C15.mem_slots
#print axioms Dna.C15.slots_lengths
#print axioms Dna.C15.slots_nodup
#print axioms Dna.C15.slots_heads
#print axioms Dna.C15.allVariants_eq
#print axioms Dna.C15.allVariants_enumerates
#print axioms Dna.C15.sizeProduct_eq
#print axioms Dna.C15.drawInt_spec
#print axioms Dna.C15.randomVariant_spec
#print axioms Dna.C15.randomVariants_spec
#print axioms Dna.C15.drawDistinct_spec
#print axioms Dna.C15.filterMap_getElem?_of_nodup
#print axioms Dna.C15.pickRandomMutations_spec
#print axioms Dna.C15.applyRandomMutations_spec
#print axioms Dna.C15.constrainLoop_cons
#print axioms Dna.C15.constrainLoop_assigns
#print axioms Dna.C15.constrainLoop_spec
#print axioms Dna.C15.constrainLoop_noop
#print axioms Dna.C15.mem_dedupConsecutive
#print axioms Dna.C15.mem_choicesList
#print axioms Dna.C15.mem_choicesList_iff_getElem?
#print axioms Dna.C15.mem_localized_choicesList
#print axioms Dna.C15.localized_choices
#print axioms Dna.C15.localized_multi_sub
#print axioms Dna.C15.localized_padding
#print axioms Dna.C15.constrainSequence_spec
#print axioms Dna.C15.constrainSequence_idem
#print axioms Dna.C15.constrainSequence_noop
