import DnaModel.Props.C11
#print axioms Dna.C11.regex_class_eq_iupac
#print axioms Dna.C11.class_comp
#print axioms Dna.C11.windowMatch_iff_zip
#print axioms Dna.C11.prefixMatch_iff
#print axioms Dna.C11.windowMatch_rc
#print axioms Dna.C11.palindrome_once
#print axioms Dna.C11.matchesAt_nil_dna
#print axioms Dna.C11.matchesAt_nil_repeated
#print axioms Dna.C11.allMatches_eq_filter
#print axioms Dna.C11.mem_allMatches
#print axioms Dna.C11.allMatches_sorted
#print axioms Dna.C11.allMatches_firstMatch
#print axioms Dna.C11.scan_eq
#print axioms Dna.C11.scan_eq_all
#print axioms Dna.C11.mem_findInString
#print axioms Dna.C11.mem_findInString_dna
#print axioms Dna.C11.findForward_spec
#print axioms Dna.C11.findReverse_spec
#print axioms Dna.C11.findMatches_plus
#print axioms Dna.C11.findMatches_minus
#print axioms Dna.C11.findMatches_minus_palindromic
#print axioms Dna.C11.findMatches_both
#print axioms Dna.C11.findMatches_both_palindromic
#print axioms Dna.C11.isPalindromic_iff
#print axioms Dna.C11.patternAlphabet_in_csv
