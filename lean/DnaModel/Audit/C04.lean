import DnaModel.Props.C04
#print axioms Dna.C04.mergeWith_exact
#print axioms Dna.C04.extractVaryingRegion_exact
#print axioms Dna.C04.allowed_iff_win
#print axioms Dna.C04.accepts_iff_choicesList
#print axioms Dna.C04.from_optimization_problem_exact
#print axioms Dna.C04.from_optimization_problem_tiles
#print axioms Dna.C04.choicesFit_of_tiles
#print axioms Dna.C04.from_optimization_problem_fits
#print axioms Dna.C04.unsolvable_iff_empty
#print axioms Dna.C04.unsolvable_space_iff
#print axioms Dna.C04.initial_sequence_in_space
#print axioms Dna.C04.initial_sequence_in_constructed_space
#print axioms Dna.C04.enforceChoice_restrict
#print axioms Dna.C04.enforceChoice_sound
#print axioms Dna.C04.avoidChanges_restrict_loc
#print axioms Dna.C04.avoidChanges_restrict
#print axioms Dna.C04.avoidChanges_restrict_iff
#print axioms Dna.C04.enforceSequence_restrict
#print axioms Dna.C04.enforceSequence_restrict_iff
