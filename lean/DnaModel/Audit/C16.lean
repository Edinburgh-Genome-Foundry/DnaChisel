import DnaModel.Props.C16
#print axioms Dna.C16.ok_bind
#print axioms Dna.C16.pure_eq_ok
#print axioms Dna.C16.mapM_ok
#print axioms Dna.C16.splitChar_prefix
#print axioms Dna.C16.splitChar_joinChar
#print axioms Dna.C16.forall_mem_joinChar
#print axioms Dna.C16.splitCS_cons_of_ne
#print axioms Dna.C16.splitCS_prefix
#print axioms Dna.C16.splitCS_joinCS
#print axioms Dna.C16.forall_mem_joinCS
#print axioms Dna.C16.Trimmed.of_no_space
#print axioms Dna.C16.strip_surrounded
#print axioms Dna.C16.strip_id
#print axioms Dna.C16.quoted_none
#print axioms Dna.C16.quoted_quote
#print axioms Dna.C16.formatAtom_quoted
#print axioms Dna.C16.formatAtom_bare
#print axioms Dna.C16.digitChar_isDigit
#print axioms Dna.C16.digitVal_digitChar
#print axioms Dna.C16.digitChar_not_space
#print axioms Dna.C16.digitChar_ne_quote
#print axioms Dna.C16.digitChar_ne_sign
#print axioms Dna.C16.Digits.forall
#print axioms Dna.C16.digitPart_digits
#print axioms Dna.C16.renderNat_ne_nil
#print axioms Dna.C16.renderNat_digits
#print axioms Dna.C16.numVal_renderNat
#print axioms Dna.C16.pyInt_digits
#print axioms Dna.C16.pyInt_renderInt
#print axioms Dna.C16.quoted_renderInt
#print axioms Dna.C16.formatAtom_renderInt
#print axioms Dna.C16.ALabel.render_eq_labelText
#print axioms Dna.C16.digitChar_not_special
#print axioms Dna.C16.Clean.but
#print axioms Dna.C16.CleanBut.mono
#print axioms Dna.C16.CleanBut.not_mem
#print axioms Dna.C16.Clean.not_mem
#print axioms Dna.C16.CleanBut.ascii
#print axioms Dna.C16.AAtom.render_clean
#print axioms Dna.C16.AVal.render_clean
#print axioms Dna.C16.args_clean
#print axioms Dna.C16.body_clean
#print axioms Dna.C16.label_clean
#print axioms Dna.C16.AAtom.render_ne_nil
#print axioms Dna.C16.formatAtom_render
#print axioms Dna.C16.joinChar_contains
#print axioms Dna.C16.formatKwValue_render
#print axioms Dna.C16.parseArg_pos
#print axioms Dna.C16.parseArg_kw
#print axioms Dna.C16.parseArgs_map
#print axioms Dna.C16.parseArgs_args
#print axioms Dna.C16.splitArgs_pos
#print axioms Dna.C16.dictSet_fresh
#print axioms Dna.C16.splitArgs_kws
#print axioms Dna.C16.lastParen_spec
#print axioms Dna.C16.labelText_last
#print axioms Dna.C16.labelText_trimmed
#print axioms Dna.C16.inScope_of
#print axioms Dna.C16.lex_spec
#print axioms Dna.C16.lex_render
#print axioms Dna.C16.fromLabel_of_lex
#print axioms Dna.C16.parseArgs_splitCS_joinCS
#print axioms Dna.C16.parse_render
#print axioms Dna.C16.colon_equals_same
#print axioms Dna.C16.lex_surrounded
#print axioms Dna.C16.fromLabel_surrounded
#print axioms Dna.C16.parse_joined_blanks
#print axioms Dna.C16.parse_joined
#print axioms Dna.C16.findLabel_label
#print axioms Dna.C16.specLabel_none
#print axioms Dna.C16.findLabel_none
#print axioms Dna.C16.fromFeatures_skip
#print axioms Dna.C16.fromFeatures_cons
#print axioms Dna.C16.lookupName_cons_self
#print axioms Dna.C16.lookupName_cons_of_ne
#print axioms Dna.C16.registry_shorthands
#print axioms Dna.C16.registry_class_names
#print axioms Dna.C16.exLabel_wf
#print axioms Dna.C16.exLabel_render
