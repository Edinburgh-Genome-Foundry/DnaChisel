import DnaModel.Props.C07
#print axioms Dna.C07.total_cons
#print axioms Dna.C07.coordinatewise_optimal_is_global
#print axioms Dna.C07.global_optimal_is_coordinatewise
#print axioms Dna.C07.coordopt_total_unique
#print axioms Dna.C07.total_nonpos
#print axioms Dna.C07.cai_terms_nonpos
#print axioms Dna.C07.cai_total_nonpos
#print axioms Dna.C07.cai_total_zero_iff
#print axioms Dna.C07.cai_best_codons_optimal
#print axioms Dna.C07.flagged_iff
#print axioms Dna.C07.rca_flagged_iff
#print axioms Dna.C07.rca_unflagged_optimal
#print axioms Dna.C07.cai_flagged_iff
#print axioms Dna.C07.translation_kept
#print axioms Dna.C07.cai_evaluate_flags
