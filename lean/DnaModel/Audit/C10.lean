import DnaModel.Props.C10
#print axioms Dna.C10.avoidPattern_eval
#print axioms Dna.C10.avoidPattern_passes_iff
#print axioms Dna.C10.avoidPattern_locations
#print axioms Dna.C10.occurence_eval
#print axioms Dna.C10.enforceChoice_eval
#print axioms Dna.C10.enforceChoice_passes_iff
#print axioms Dna.C10.enforceChoice_fail_location
#print axioms Dna.C10.lengthBounds_passes_iff
#print axioms Dna.C10.length_trueIndices
#print axioms Dna.C10.avoidChanges_eval
#print axioms Dna.C10.avoidChanges_score
