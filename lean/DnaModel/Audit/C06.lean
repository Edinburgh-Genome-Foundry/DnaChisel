import DnaModel.Props.C06
#print axioms Dna.C06.exhaustiveTest_pure
#print axioms Dna.C06.exhaustiveLoop_pure
#print axioms Dna.C06.resolveExhaustive_complete
#print axioms Dna.C06.BestOf.feasible_best
#print axioms Dna.C06.BestOf.nil
#print axioms Dna.C06.BestOf.skip
#print axioms Dna.C06.BestOf.take
#print axioms Dna.C06.BestOf.early
#print axioms Dna.C06.optExhaustiveLoop_pure
#print axioms Dna.C06.optimizeExhaustive_pure
#print axioms Dna.C06.optimizeExhaustive_max
#print axioms Dna.C06.optimizeExhaustive_infeasible
#print axioms Dna.C06.searched_set_is_space
