import DnaModel.Props.C05
#print axioms Dna.C05.seqLt_irrefl
#print axioms Dna.C05.sortSeqs_canonical
#print axioms Dna.C05.seg_same
#print axioms Dna.C05.randomVariant_order_free
#print axioms Dna.C05.variantsByDistance_order_free
#print axioms Dna.C05.constrainLoop_order_free
#print axioms Dna.C05.map_order_free
#print axioms Dna.C05.lengths_order_free
#print axioms Dna.C05.randomVariants_order_free
#print axioms Dna.C05.slots_order_free
