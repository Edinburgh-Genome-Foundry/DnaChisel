import DnaModel.Props.C18
#print axioms Dna.C18.mem_def
#print axioms Dna.C18.overlap_eq
#print axioms Dna.C18.overlap_eq_inter
#print axioms Dna.C18.overlap_mem
#print axioms Dna.C18.overlap_eq_none_iff_disjoint
#print axioms Dna.C18.overlap_eq_none_iff_not_exists_mem
#print axioms Dna.C18.overlap_comm_span
#print axioms Dna.C18.overlap_strand
#print axioms Dna.C18.overlap_nonempty
#print axioms Dna.C18.overlap_touching
#print axioms Dna.C18.extended_start
#print axioms Dna.C18.extended_stop
#print axioms Dna.C18.extended_strand
#print axioms Dna.C18.extended_mem_free
#print axioms Dna.C18.lt_iff
#print axioms Dna.C18.le_iff
#print axioms Dna.C18.lt_irrefl
#print axioms Dna.C18.lt_trans
#print axioms Dna.C18.lt_trichotomy
#print axioms Dna.C18.le_total
#print axioms Dna.C18.le_trans
#print axioms Dna.C18.le_start
#print axioms Dna.C18.eq_iff_toTuple
#print axioms Dna.C18.ofTuple_toTuple
#print axioms Dna.C18.toTuple_ofTuple
#print axioms Dna.C18.ofPair_default
#print axioms Dna.C18.ofBio_none
#print axioms Dna.C18.ofBio_some
#print axioms Dna.C18.shift_unshift
#print axioms Dna.C18.mem_shift
#print axioms Dna.C18.len_shift
#print axioms Dna.C18.mem_indices
#print axioms Dna.C18.extract_plus
#print axioms Dna.C18.extract_minus
#print axioms Dna.C18.covers_nil
#print axioms Dna.C18.covers_cons
#print axioms Dna.C18.mergeStep_cons
#print axioms Dna.C18.mergeStep_inv
#print axioms Dna.C18.foldl_mergeStep_inv
#print axioms Dna.C18.merge_sorted_disjoint_union
#print axioms Dna.C18.merge_no_overlap
