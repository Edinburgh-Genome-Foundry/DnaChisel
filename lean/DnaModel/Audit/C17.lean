import DnaModel.Props.C17
#print axioms Dna.C17.pairUp_npDiff
#print axioms Dna.C17.pairUp_length
#print axioms Dna.C17.diffSegments_eq_runs
#print axioms Dna.C17.diffCount_eq_countP_zip
#print axioms Dna.C17.segments_total
#print axioms Dna.C17.sliceN_eq_win
#print axioms Dna.C17.mem_editFeatures
#print axioms Dna.C17.editFeatures_cover
#print axioms Dna.C17.editFeatures_labels
#print axioms Dna.C17.editFeatures_separated
#print axioms Dna.C17.editFeatures_total
#print axioms Dna.C17.foldl_assign_before
#print axioms Dna.C17.numberOfEdits_history
#print axioms Dna.C17.summary_success_iff
#print axioms Dna.C17.summary_failure_count
#print axioms Dna.C17.render_success
#print axioms Dna.C17.weightedTotal_rat
#print axioms Dna.C17.total_eq_weightedTotal
