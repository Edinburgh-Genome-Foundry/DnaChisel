import DnaModel.Props.C08
#print axioms Dna.C08.pySlice_unchanged
#print axioms Dna.C08.extract_unchanged
#print axioms Dna.C08.findMatches_unchanged
#print axioms Dna.C08.evaluate_local
#print axioms Dna.C08.overlap_ext_of_overlap
#print axioms Dna.C08.localized_none_disjoint
#print axioms Dna.C08.localized_none_unchanged
#print axioms Dna.C08.soundAt_of_same
#print axioms Dna.C08.soundAt_of_none
#print axioms Dna.C08.win_eq_of_agree
#print axioms Dna.C08.eq_of_agree_empty
#print axioms Dna.C08.soundAt_of_empty
#print axioms Dna.C08.LocalPasses.of_new
#print axioms Dna.C08.soundAt_of_units
#print axioms Dna.C08.pointwise_sound
#print axioms Dna.C08.avoidChanges_soundAt
#print axioms Dna.C08.enforceSequence_soundAt
#print axioms Dna.C08.stopCodons_soundAt
#print axioms Dna.C08.translation_soundAt
#print axioms Dna.C08.gc_soundAt
#print axioms Dna.C08.avoidPattern_forward_sound
#print axioms Dna.C08.avoidPattern_soundAt
#print axioms Dna.C08.agreeOutside_of_agreeOut
#print axioms Dna.C08.localized_ne_typeError
#print axioms Dna.C08.localSound_of_soundAt
#print axioms Dna.C08.same_localSound
#print axioms Dna.C08.sameOrNone_localSound
#print axioms Dna.C08.bOps_pureEval
#print axioms Dna.C08.bOps_pureObj
#print axioms Dna.C08.proven_localSound
#print axioms Dna.C08.builtin_optimize_preserves_feasible
