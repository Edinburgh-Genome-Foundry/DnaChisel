import DnaModel.Props.C09
#print axioms Dna.C09.wsum_local
#print axioms Dna.C09.wscore_local
#print axioms Dna.C09.wscoreQ_local
#print axioms Dna.C09.none_diff_zero
#print axioms Dna.C09.totalFrom_eq
#print axioms Dna.C09.total_diff
#print axioms Dna.C09.local_sum_eq
#print axioms Dna.C09.totalFaithful_of_scoreFaithful
#print axioms Dna.C09.optimize_never_lowers_rat
#print axioms Dna.C09.same_scoreFaithful
#print axioms Dna.C09.agreeOut_empty
#print axioms Dna.C09.scoreFaithful_of_wsum
#print axioms Dna.C09.filter_length_eq_sum
#print axioms Dna.C09.diffCount_win
#print axioms Dna.C09.avoidChanges_scoreFaithful
#print axioms Dna.C09.gc_evB
#print axioms Dna.C09.gc_scoreFaithful
#print axioms Dna.C09.sameOrNone_scoreFaithful
#print axioms Dna.C09.provenObj_scoreFaithful
#print axioms Dna.C09.builtin_optimize_never_lowers
