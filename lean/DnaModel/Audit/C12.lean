import DnaModel.Props.C12
#print axioms Dna.C12.closed_of_edit
#print axioms Dna.C12.exhaustiveLoop_inv
#print axioms Dna.C12.resolveExhaustive_inv
#print axioms Dna.C12.mutate_inv
#print axioms Dna.C12.randomLoop_inv
#print axioms Dna.C12.singleLoop_inv
#print axioms Dna.C12.resolveRandom_inv
#print axioms Dna.C12.resolveLocally_inv
#print axioms Dna.C12.optExhaustiveLoop_inv
#print axioms Dna.C12.optimizeExhaustive_inv
#print axioms Dna.C12.optRandomLoop_inv
#print axioms Dna.C12.optimizeRandom_inv
#print axioms Dna.C12.localOptimize_inv
#print axioms Dna.C12.seqLoop_inv
#print axioms Dna.C12.extensionsLoop_inv
#print axioms Dna.C12.resolveConstraint_inv
#print axioms Dna.C12.resolveEach_inv
#print axioms Dna.C12.resolveConstraints_inv
#print axioms Dna.C12.optimizeObjective_inv
#print axioms Dna.C12.optimize_inv
#print axioms Dna.C12.localSolve_inv
#print axioms Dna.C12.tryExtension_seq
#print axioms Dna.C12.tryExtension_inv
#print axioms Dna.C12.optimizeLocation_seq
#print axioms Dna.C12.optimizeLocation_inv
#print axioms Dna.C12.closed_inSp
#print axioms Dna.C12.env_inSp
#print axioms Dna.C12.resolve_keeps_restrictions
#print axioms Dna.C12.optimize_keeps_restrictions
#print axioms Dna.C12.closed_self
#print axioms Dna.C12.direct_searches_keep_restrictions
#print axioms Dna.C12.resolvable_again
#print axioms Dna.C12.exhaustiveTest_err
#print axioms Dna.C12.exhaustiveLoop_err
#print axioms Dna.C12.exhaustive_fail_restores
