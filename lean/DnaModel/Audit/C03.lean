import DnaModel.Props.C03
#print axioms Dna.C03.optimizeExhaustive_mono
#print axioms Dna.C03.optimizeRandom_mono
#print axioms Dna.C03.two_steps_mono
#print axioms Dna.C03.optExhaustiveLoop_mono
#print axioms Dna.C03.optimize_never_lowers
